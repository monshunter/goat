import GoatSpec.Skeleton
/-! # GoatSpec.SkelSpec — analyses of the effect skeleton that `vh skeleton` translates from
    /repo's Go source on every run (`GoatSpec/Skeleton.lean`, generated).

The skeleton keeps, per function and in source order, the calls of project functions, the
external steps that can fail (callee's last result is `error`, or a new error value is made),
the write-boundary hooks, the file-system mutations, the uses of package-level variables and the
loops. Branches are flattened (both arms in source order) and a loop body counts twice, so
everything computed here over-approximates "may happen after". Per function a *summary* is
kept in a table that is a fixed point of the transfer function over all bodies (`isFixedPoint`):
* `w`    — may mutate the file system (callees included),
* `all`  — set of fallible steps it may execute (bit mask over `extSites`),
* `late` — set of fallible steps that may execute after a mutation made inside the function,
* `refs` — set of package-level variables it may touch (bit mask over `refNames`).
The property theorems (`Properties/C12`, `C15`, `C06`, `C10`, and `Pools` for C08) evaluate these
by `decide +kernel`; C15 and C08 take the facts they share with C12 and `Pools` from there. -/
namespace GoatSpec.SkelSpec
open GoatSpec.Skeleton

/-- scan state inside one body -/
structure St where
  written : Bool := false
  all : Nat := 0
  late : Nat := 0
  refs : Nat := 0

def bit (i : Nat) : Nat := 1 <<< i

def callSum (tbl : List Sum) (s : St) (f : Nat) : St :=
  let c := tbl.getD f {}
  { written := s.written || c.w
    all := s.all ||| c.all
    late := s.late ||| (if s.written then c.all else c.late)
    refs := s.refs ||| c.refs }

mutual
def stepSk (tbl : List Sum) (s : St) : Sk → St
  | .call f => callSum tbl s f
  | .icall fs => fs.foldl (callSum tbl) s
  | .ext k => { s with all := s.all ||| bit k, late := if s.written then s.late ||| bit k else s.late }
  | .hook _ => s
  | .write _ => { s with written := true }
  | .ref v => { s with refs := s.refs ||| bit v }
  | .loop body => stepL tbl (stepL tbl s body) body
  | .spawn body => stepL tbl s body
def stepL (tbl : List Sum) (s : St) : List Sk → St
  | [] => s
  | x :: r => stepL tbl (stepSk tbl s x) r
end

def sumOf (tbl : List Sum) (body : List Sk) : Sum :=
  let s := stepL tbl {} body
  ⟨s.written, s.all, s.late, s.refs⟩

def round (tbl : List Sum) : List Sum := bodies.map (sumOf tbl)

def iter : Nat → List Sum → List Sum
  | 0, t => t
  | n+1, t => iter n (round t)

/-- The summary table. The translator computes it (same transfer function, in Go) and emits it
    as `Skeleton.tableHint`; nothing is taken on trust: `isFixedPoint` re-runs one round of the
    Lean transfer function over it in the kernel. Every well-formed fixed point of the (monotone)
    transfer function lies above each finite unrolling `iter n ⊥` (`Proofs/Skel.iter_le_fixed`,
    instantiated for this table as `C12.skeleton_table_sound`), and all
    facts drawn from the table are upper bounds ("at most these steps / variables / no
    unhooked mutation"), so a fixed point is all that soundness needs. -/
def table : List Sum := tableHint

def isFixedPoint : Bool := round table == table && table.length == bodies.length && fnNames.length == bodies.length

/-- every entry has `late ⊆ all` -/
def tableWf : Bool := table.all (fun s => s.late &&& s.all == s.late)

def fnIndex (name : String) : Option Nat := fnNames.idxOf? name

def summary (name : String) : Sum :=
  match fnIndex name with
  | some i => table.getD i {}
  | none => ⟨true, 0, 0, 0⟩

def known (name : String) : Bool := (fnIndex name).isSome

/-- decode a bit mask over a name table -/
def decode {α : Type} (tbl : List α) (mask : Nat) : List α :=
  (List.range tbl.length).filterMap (fun i => if mask.testBit i then tbl[i]? else none)

/-- fallible steps that may run after the first file-system mutation of `entry` -/
def late (entry : String) : List (String × String) := decode extSites (summary entry).late

def mutates (entry : String) : Bool := (summary entry).w

/-- package-level variables of the project that `entry` may touch, callees included -/
def refsOf (entry : String) : List String := decode refNames (summary entry).refs

/-! ## hooks: every mutation is directly preceded by a write-boundary hook -/

def effectFree (f : Nat) : Bool :=
  let c := table.getD f {}
  !c.w && c.all == 0

mutual
/-- `armed`: a hook was seen and nothing but effect-free project calls and variable uses since -/
def unhookedSk (armed : Bool) : Sk → Bool × List Nat
  | .hook _ => (true, [])
  | .write p => (false, if armed then [] else [p])
  | .call f => (armed && effectFree f, [])
  | .ref _ => (armed, [])
  | .icall _ => (false, [])
  | .ext _ => (false, [])
  | .loop body => (false, (unhookedL false body).2)
  | .spawn body => (false, (unhookedL false body).2)
def unhookedL (armed : Bool) : List Sk → Bool × List Nat
  | [] => (armed, [])
  | s :: r =>
    let a := unhookedSk armed s
    let b := unhookedL a.1 r
    (b.1, a.2 ++ b.2)
end

/-- mutations without their hook: (function, primitive), over every function of the project -/
def unhooked : List (String × String) :=
  (fnNames.zip bodies).flatMap (fun p => ((unhookedL false p.2).2).map (fun i => (p.1, prims.getD i "?")))

mutual
def directWritesSk : Sk → List Nat
  | .write p => [p]
  | .loop body => directWritesL body
  | .spawn body => directWritesL body
  | _ => []
def directWritesL : List Sk → List Nat
  | [] => []
  | s :: r => directWritesSk s ++ directWritesL r
end

/-- the functions that contain a mutation themselves, with the primitives they use -/
def writers : List (String × List String) :=
  (fnNames.zip bodies).filterMap (fun p =>
    let w := directWritesL p.2
    if w.isEmpty then none else some (p.1, w.map (fun i => prims.getD i "?")))

/-! ## source order inside one function -/

mutual
def refOrderSk : Sk → List Nat
  | .ref v => [v]
  | .loop body => refOrderL body
  | .spawn body => refOrderL body
  | _ => []
def refOrderL : List Sk → List Nat
  | [] => []
  | s :: r => refOrderSk s ++ refOrderL r
end

/-- package-level variables mentioned by the body of `f` itself, in source order -/
def refOrder (f : String) : List String :=
  match fnIndex f with
  | none => ["<unknown project function>"]
  | some i => (refOrderL (bodies.getD i [])).map (fun v => refNames.getD v "?")

mutual
def callOrderSk : Sk → List Nat
  | .call f => [f]
  | .loop body => callOrderL body
  | .spawn body => callOrderL body
  | _ => []
def callOrderL : List Sk → List Nat
  | [] => []
  | s :: r => callOrderSk s ++ callOrderL r
end

/-- project functions called by the body of `f` itself, in source order -/
def callOrder (f : String) : List String :=
  match fnIndex f with
  | none => ["<unknown project function>"]
  | some i => (callOrderL (bodies.getD i [])).map (fun g => fnNames.getD g "?")

/-! ## goroutines -/

mutual
/-- the bodies of the `go` statements of a skeleton -/
def spawnsSk : Sk → List (List Sk)
  | .spawn body => body :: spawnsL body
  | .loop body => spawnsL body
  | _ => []
def spawnsL : List Sk → List (List Sk)
  | [] => []
  | s :: r => spawnsSk s ++ spawnsL r
end

/-- the functions that start goroutines -/
def spawners : List String :=
  (fnNames.zip bodies).filterMap (fun p => if (spawnsL p.2).isEmpty then none else some p.1)

/-- package-level variables the goroutines started by `f` may touch (callees included) -/
def spawnRefs (f : String) : List String :=
  match fnIndex f with
  | none => ["<unknown project function>"]
  | some i => decode refNames ((spawnsL (bodies.getD i [])).foldl (fun m b => m ||| (stepL table {} b).refs) 0)

end GoatSpec.SkelSpec
