/-! # GoatSpec.Basic — shared helpers (core Lean only) -/
namespace GoatSpec

/-- a source line without its terminating newline -/
abbrev Line := List Char

/-- Go regexp `\s` without the newline (lines are already split at `\n`): `[\t\f\r ]` -/
def isWs (c : Char) : Bool := c == ' ' || c == '\t' || c == '\x0c' || c == '\r'

/-- `strings.TrimSpace` white space restricted to what can occur inside one line:
    Go's unicode.IsSpace for ASCII is `\t \n \v \f \r ' '` plus U+0085, U+00A0 -/
def isGoSpace (c : Char) : Bool :=
  c == ' ' || c == '\t' || c == '\x0b' || c == '\x0c' || c == '\r' || c == '\u0085' || c == ' '

def ltrim (l : Line) : Line := l.dropWhile isWs

def isBlank (l : Line) : Bool := l.all isWs

/-- strictly increasing list of naturals, all ≥ lo -/
def Incr : Nat → List Nat → Prop
  | _, [] => True
  | lo, p :: ps => lo ≤ p ∧ Incr (p+1) ps

instance : (lo : Nat) → (ps : List Nat) → Decidable (Incr lo ps)
  | _, [] => isTrue trivial
  | lo, p :: ps =>
    match Nat.decLe lo p, instDecidableIncr (p+1) ps with
    | isTrue h1, isTrue h2 => isTrue ⟨h1, h2⟩
    | isFalse h1, _ => isFalse (fun h => h1 h.1)
    | _, isFalse h2 => isFalse (fun h => h2 h.2)

theorem Incr.mono {lo lo' : Nat} {ps : List Nat} (h : Incr lo ps) (hl : lo' ≤ lo) : Incr lo' ps := by
  cases ps with
  | nil => trivial
  | cons p ps => exact ⟨Nat.le_trans hl h.1, h.2⟩

theorem Incr.ge {lo : Nat} {ps : List Nat} (h : Incr lo ps) {x : Nat} (hx : x ∈ ps) : lo ≤ x := by
  induction ps generalizing lo with
  | nil => cases hx
  | cons p ps ih =>
    rcases List.mem_cons.mp hx with rfl | hx'
    · exact h.1
    · exact Nat.le_trans (Nat.le_succ_of_le h.1) (ih h.2 hx')

theorem Incr.not_mem {lo : Nat} {ps : List Nat} (h : Incr lo ps) {x : Nat} (hx : x < lo) : x ∉ ps :=
  fun hm => Nat.not_le_of_gt hx (h.ge hm)

/-- the loops of `doInsert` compare the 0-based index `i` with `p - 1` for the next position `p`:
    either `p` is this line and the rest lies below, or all of it lies below -/
theorem Incr.head_cases {i p : Nat} {ps : List Nat} (h : Incr (i+1) (p :: ps)) :
    (p = i + 1 ∧ Incr (i+1+1) ps) ∨ (i ≠ p - 1 ∧ Incr (i+1+1) (p :: ps)) := by
  by_cases hi : p = i + 1
  · exact .inl ⟨hi, hi ▸ h.2⟩
  · have hlt : i + 1 < p := Nat.lt_of_le_of_ne h.1 (Ne.symm hi)
    exact .inr ⟨Nat.ne_of_lt (Nat.lt_sub_of_add_lt hlt), hlt, h.2⟩

end GoatSpec
