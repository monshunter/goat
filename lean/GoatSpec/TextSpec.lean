import GoatSpec.Text
/-! # GoatSpec.TextSpec — what C06 / C10 demand of the text passes, as decidable predicates.

A *well-formed arrangement* is a list of items: user lines (blank, code or comment lines that
start no marker), complete marker blocks (start line of kind generate / delete / main / user,
plain body lines, end line) and insert-marker lines. The predicates below are evaluated by the
driver on the *implementation's* output (`judge`). `C06.clean_wf` and `C10.patch_wf` state the same
conjuncts for `flatten items` with every item well formed; that `parseItems inp = some items` means
`inp = flatten items` with every item well formed is not proved: the link between what the driver
judges and what is proved is by reading. -/
namespace GoatSpec

def allMk : List Mk := [.generate, .delete, .main, .user, .insert, .endm]

/-- the line starts no marker at all -/
def plain (l : Line) : Bool := allMk.all (fun k => !startsMk k l)

inductive Item where
  | user (x : Line)
  | block (k : Mk) (s : Line) (body : List Line) (e : Line)
  | ins (x : Line)
deriving Repr, DecidableEq

def Item.kind : Item → Option Mk
  | .user _ => none
  | .block k _ _ _ => some k
  | .ins _ => some .insert

def blockKind (k : Mk) : Bool := k == .generate || k == .delete || k == .main || k == .user

def Item.wf : Item → Bool
  | .user x => plain x
  | .block k s body e => blockKind k && startsMk k s && body.all plain && startsMk .endm e
  | .ins x => startsMk .insert x

def Item.lines : Item → List Line
  | .user x => [x]
  | .block _ s body e => s :: (body ++ [e])
  | .ins x => [x]

def flatten (items : List Item) : List Line := items.flatMap Item.lines

def Item.isBlankUser : Item → Bool
  | .user x => isBlank x
  | _ => false

def nonBlank (l : List Line) : List Line := l.filter (fun x => !isBlank x)

def isK (k : Mk) (it : Item) : Bool := it.kind == some k

/-- replace every item of kind `k` by the items `rit` -/
def replaceK (k : Mk) (rit : List Item) (items : List Item) : List Item :=
  items.flatMap (fun it => if isK k it then rit else [it])

def cntK (k : Mk) (items : List Item) : Nat := (items.filter (isK k)).length

/-- the reset tracking block as an item -/
def genBlockItem : Item :=
  match Extracted.packageInsertStmts with
  | [s, a, b, e] => .block .generate s [a, b] e
  | _ => .user []

/-- The body of one block: the plain lines up to the first end line; returns body, end line and
    the lines after it. `none`: no end line, or a marker line inside the body. -/
def parseBody : List Line → Option (List Line × Line × List Line)
  | [] => none
  | x :: r =>
    if startsMk .endm x then some ([], x, r)
    else if plain x then
      match parseBody r with
      | some (b, e, rest) => some (x :: b, e, rest)
      | none => none
    else none

theorem parseBody_len {l : List Line} {b e r} (h : parseBody l = some (b, e, r)) : r.length < l.length := by
  induction l generalizing b e r with
  | nil => cases h
  | cons x t ih =>
    rw [parseBody] at h
    split at h
    · cases h; exact Nat.lt_succ_self _
    · split at h
      · split at h
        · next hb => cases h; exact Nat.lt_succ_of_lt (ih hb)
        · cases h
      · cases h

def startKind (l : Line) : Option Mk :=
  [Mk.generate, .delete, .main, .user].find? (fun k => startsMk k l)

/-- Parse a list of lines into items; `none` when the lines are not a well-formed arrangement
    (orphan end marker, unterminated start marker, marker inside a block). -/
def parseItems (l : List Line) : Option (List Item) :=
  match l with
  | [] => some []
  | x :: r =>
    if plain x then (parseItems r).map (fun is => .user x :: is)
    else if startsMk .insert x then (parseItems r).map (fun is => .ins x :: is)
    else match startKind x with
      | some k =>
        match h : parseBody r with
        | some (b, e, rest) => (parseItems rest).map (fun is => .block k x b e :: is)
        | none => none
      | none => none
termination_by l.length
decreasing_by
  all_goals simp_wf
  · have := parseBody_len h; omega

/-- C06, text level: judged on well-formed arrangements only (`none` = outside the quantifier). -/
def cleanOK (inp : List Line) (changed : Bool) (out : List Line) : Option Bool :=
  match parseItems inp with
  | none => none
  | some items =>
    some (nonBlank out == nonBlank (flatten (items.filter (fun it => it.kind.isNone)))
          && out.all plain
          && (changed == items.any (fun it => it.kind.isSome)))

/-- what `goat patch` must make of one file's arrangement (C10) -/
def patchExpected (isMain : Bool) (items : List Item) : List Item :=
  items.flatMap fun it =>
    match it.kind with
    | some .delete => []
    | some .insert => [genBlockItem]
    | some .generate => [genBlockItem]
    | some .main => if isMain then [] else [it]
    | _ => [it]

def patchOK (isMain : Bool) (inp : List Line) (updated changed : Bool) (out : List Line) : Option Bool :=
  match parseItems inp with
  | none => none
  | some items =>
    some (nonBlank out == nonBlank (flatten (patchExpected isMain items))
          && (changed == items.any (fun it => isK .delete it || isK .insert it))
          && (updated == items.any (fun it => isK .delete it || isK .insert it || isK .generate it
                                              || (isMain && isK .main it))))

/-- final state of the tracking import after the recorded actions -/
def applyImports (present : Bool) (acts : List ImportAct) : Bool :=
  acts.foldl (fun p a => match a with | .add => true | .delete => false | .keep => p) present

/-- C10, file level: an instrumented (or not yet instrumented) source file imports the tracking
    package iff it holds a generate / delete / main block; a main block in a non-main file is
    not something the tool writes. Files outside this are not judged for their import. -/
def importConsistent (isMain imp : Bool) (items : List Item) : Bool :=
  (imp == items.any (fun it => isK .generate it || isK .delete it || isK .main it))
  && (isMain || !items.any (isK .main))

/-- after `PatchExecutor.prepareContent` the file must import the tracking package iff a
    tracking block is left in it (otherwise it does not compile: undefined alias / unused import) -/
def importExpected (isMain : Bool) (items : List Item) : Bool :=
  (patchExpected isMain items).any (isK .generate)

end GoatSpec
