import GoatSpec.Properties.C03
import GoatSpec.Proofs.Mono
/-! # C03 at patch granularity: the guard of `scope_guard_partial` carries over

The patch-scope bookkeeping (mark arrays per scope key) only ever suppresses an insertion inside a
scope key that already holds one; the first event of every scope key inserts at patch granularity
exactly as at scope granularity (`Proofs/Mono.sub_patch`: the scope positions are among the patch
positions). So every block that holds a changed statement the walk reaches carries a tracking
block at patch granularity too (`patch_guard_partial`). The patch-specific guarantee, further down: a changed
reached statement and a tracking point of its scope key lie in one contiguous patch of changed or comment
lines (`events_patch`, `patch_run_guard_partial`, from the state invariant `PInv`). -/
namespace GoatSpec.C03
open GoatSpec

/-- **C03, patch granularity (partial, as for scope granularity).** For every abstract file and
    changed-line set on which the tracker terminates normally at patch and at scope granularity: for
    a marking statement of a declared function's body that the statement walk reaches, whose first
    line `l` is changed and lies in the innermost track scope (block) `t.search l`, the patch run has
    put a tracking block before the comment-adjusted line `r0` of some line `l0` of that same block
    (or `r0` lies outside every function). -/
theorem patch_guard_partial (f : File) (ranges : List (Nat × Nat)) (mP mS : Marks)
    (hP : marks f .patch ranges = .ok mP) (hS : marks f .scope ranges = .ok mS)
    (lb rb : Nat) (p : Nat × Nat) (stmts : List Stmt)
    (hd : Decl.funcDecl (some (lb, rb, some p, stmts)) ∈ f.decls)
    (l : Nat) (hw : WalkedL l stmts)
    (env : Env) (henv : mkEnv f .scope ranges = .ok env)
    (hch : env.isChanged l = .ok true)
    (t : TScope) (ht : searchTrees env.trees l = some t) :
    ∃ l0 t0 r0, searchTrees env.trees l0 = some t0 ∧ t0.search l0 = t.search l ∧
      skipComments env (env.comments.size + 1) l0 = .ok r0 ∧ (r0 ∈ mP.multi ∨ searchScopes env.funcs r0 = 0) := by
  obtain ⟨l0, t0, r0, h1, h2, h3, h4⟩ := scope_guard_partial f ranges mS hS lb rb p stmts hd l hw env henv hch t ht
  refine ⟨l0, t0, r0, h1, h2, h3, h4.imp ?_ id⟩
  intro hin
  obtain ⟨eP, _, heP, _, _⟩ := marks_eq f .patch ranges mP hP
  obtain ⟨gP, sP, hrP, hmP⟩ := marks_run hP heP
  obtain ⟨gS, sS, hrS, hmS⟩ := marks_run hS henv
  obtain ⟨he, _, _, htr⟩ := mkEnv_same henv heP
  rw [he.changed] at hrP
  exact (hmP r0).mpr ((sub_patch he (htr (Or.inr rfl) (Or.inl rfl)) gS gP hrS hrP).1 ((hmS r0).mp hin))

open GoatSpec.Patch

/-- what is known about one patch scope of a state: marks are non-zero exactly on changed / comment
    lines (inside the array), and every covered line (mark 2) has a witness — a line `l0` of the
    same scope key whose comment-adjusted line is a tracking position (or lies outside every
    function), joined to the covered line by non-zero marks -/
structure PS (env : Env) (st : MState) (k : Nat × Nat) (p : PatchScope) : Prop where
  init : ∀ x, p.s < x → mkA p.s p.marks x ≠ 0 → flag env x = true
  initC : ∀ x, p.s < x → x - p.s - 1 < p.marks.size → flag env x = true → mkA p.s p.marks x ≠ 0
  vals : ∀ x, p.s < x → mkA p.s p.marks x ≤ 2
  wit : ∀ j, p.s < j → mkA p.s p.marks j = 2 → ∃ l0 t0 r0, searchTrees env.trees l0 = some t0 ∧ t0.search l0 = k ∧ p.s < l0 ∧
      skipComments env (env.comments.size + 1) l0 = .ok r0 ∧ (r0 ∈ st.multi ∨ searchScopes env.funcs r0 = 0) ∧
      ∀ y, (j < y ∧ y < l0) ∨ (l0 < y ∧ y < j) → mkA p.s p.marks y ≠ 0

def PInv (env : Env) (st : MState) : Prop := ∀ k p, st.patch.lookup k = some p → PS env st k p

/-- the marks of `p'` are those of `p` grown: a 2 stays 2, non-zero stays non-zero. `PMono` below says this, spelt out,
    of every patch scope of a state -/
def Grows (p p' : PatchScope) : Prop :=
  p'.s = p.s ∧ ∀ x, p.s < x →
    (mkA p.s p.marks x = 2 → mkA p.s p'.marks x = 2) ∧ (mkA p.s p.marks x ≠ 0 → mkA p.s p'.marks x ≠ 0)

theorem Grows.refl (p : PatchScope) : Grows p p := ⟨rfl, fun _ _ => ⟨id, id⟩⟩

theorem Grows.trans {p p' p'' : PatchScope} (h1 : Grows p p') (h2 : Grows p' p'') : Grows p p'' := by
  obtain ⟨hs, hm⟩ := h1
  obtain ⟨hs', hm'⟩ := h2
  rw [hs] at hs' hm'
  exact ⟨hs', fun x hx => ⟨(hm' x hx).1 ∘ (hm x hx).1, (hm' x hx).2 ∘ (hm x hx).2⟩⟩

/-- marks only grow (non-zero stays non-zero, 2 stays 2), positions only grow -/
def PMono (st st' : MState) : Prop :=
  (∀ x ∈ st.multi, x ∈ st'.multi) ∧
  ∀ k p, st.patch.lookup k = some p → ∃ p', st'.patch.lookup k = some p' ∧ p'.s = p.s ∧
    ∀ x, p.s < x → (mkA p.s p.marks x = 2 → mkA p.s p'.marks x = 2) ∧ (mkA p.s p.marks x ≠ 0 → mkA p.s p'.marks x ≠ 0)

theorem PMono.refl (st : MState) : PMono st st :=
  ⟨fun _ h => h, fun _ p h => ⟨p, h, Grows.refl p⟩⟩

theorem PMono.trans {a b c : MState} (h1 : PMono a b) (h2 : PMono b c) : PMono a c := by
  refine ⟨fun x hx => h2.1 x (h1.1 x hx), fun k p hp => ?_⟩
  obtain ⟨p', hp', g1⟩ := h1.2 k p hp
  obtain ⟨p'', hp'', g2⟩ := h2.2 k p' hp'
  exact ⟨p'', hp'', Grows.trans g1 g2⟩

/-- line `l` is covered in the array of `p`: a line `j0 ≤ l` is marked 2 and every line from there up to `l` has a
    non-zero mark -/
def CovIn (p : PatchScope) (l : Nat) : Prop :=
  ∃ j0, p.s < j0 ∧ j0 ≤ l ∧ mkA p.s p.marks j0 = 2 ∧ ∀ x, j0 < x → x ≤ l → mkA p.s p.marks x ≠ 0

theorem CovIn.grows {p p' : PatchScope} {l : Nat} (h : CovIn p l) (hg : Grows p p') : CovIn p' l := by
  obtain ⟨j0, hj0, hle, htwo, hnz⟩ := h
  obtain ⟨hs, hm⟩ := hg
  unfold CovIn
  rw [hs]
  exact ⟨j0, hj0, hle, (hm j0 hj0).1 htwo, fun x h1 h2 => (hm x (Nat.lt_trans hj0 h1)).2 (hnz x h1 h2)⟩

/-- line `l` of scope key `k` is covered (`CovIn`) in the patch scope the state holds for `k` -/
def Cov (st : MState) (k : Nat × Nat) (l : Nat) : Prop :=
  ∃ p, st.patch.lookup k = some p ∧ ∃ j0, p.s < j0 ∧ j0 ≤ l ∧ mkA p.s p.marks j0 = 2 ∧
    ∀ x, j0 < x → x ≤ l → mkA p.s p.marks x ≠ 0

theorem Cov.mono {st st' : MState} {k : Nat × Nat} {l : Nat} (h : Cov st k l) (hm : PMono st st') : Cov st' k l := by
  obtain ⟨p, hp, hc⟩ := h
  obtain ⟨p', hp', hg⟩ := hm.2 k p hp
  exact ⟨p', hp', CovIn.grows hc hg⟩

theorem PS.weaken {env : Env} {st st' : MState} {k : Nat × Nat} {p : PatchScope} (h : PS env st k p)
    (hm : ∀ x ∈ st.multi, x ∈ st'.multi) : PS env st' k p := by
  refine ⟨h.init, h.initC, h.vals, fun j hj h2 => ?_⟩
  obtain ⟨l0, t0, r0, ht0, hk0, hl0, hr0, hpos, hjoin⟩ := h.wit j hj h2
  exact ⟨l0, t0, r0, ht0, hk0, hl0, hr0, hpos.imp (hm r0) id, hjoin⟩

theorem PS.fresh {env : Env} {s e : Nat} {ps : PatchScope} (h : newPatchScope env s e = .ok ps) {st : MState}
    {k : Nat × Nat} : PS env st k ps := by
  obtain ⟨hs, he, hsz, hmk⟩ := Patch.newPatchScope_spec env s e ps h
  subst hs he
  refine ⟨fun x hx hnz => ?_, fun x hx hin hf => ?_, fun x hx => ?_, fun j hj h2 => ?_⟩
  · rw [hmk x hx] at hnz
    split at hnz
    · next hc => exact hc.2
    · exact absurd rfl hnz
  · rw [hmk x hx, if_pos ⟨by omega, hf⟩]; decide
  · rw [hmk x hx]; split <;> decide
  · rw [hmk j hj] at h2; split at h2 <;> cases h2

theorem PInv.update {env : Env} {st st' : MState} {key : Nat × Nat} {p' : PatchScope} (hinv : PInv env st)
    (hm : ∀ x ∈ st.multi, x ∈ st'.multi)
    (hlk : ∀ k, st'.patch.lookup k = if k == key then some p' else st.patch.lookup k)
    (hp' : PS env st' key p')
    (hgrow : ∀ p, st.patch.lookup key = some p → Grows p p') :
    PInv env st' ∧ PMono st st' := by
  refine ⟨fun k p hk => ?_, hm, fun k p hk => ?_⟩
  · rw [hlk] at hk
    split at hk
    · next e => cases hk; cases eq_of_beq e; exact hp'
    · exact (hinv k p hk).weaken hm
  · rw [hlk]
    split
    · next e => cases eq_of_beq e; exact ⟨p', rfl, hgrow p hk⟩
    · exact ⟨p, hk, Grows.refl p⟩

/-- what `markInserted` keeps of the mark of line `x` -/
structure Kept (p p' : PatchScope) (x : Nat) : Prop where
  two : mkA p.s p.marks x = 2 → mkA p.s p'.marks x = 2
  nz : mkA p.s p.marks x ≠ 0 ↔ mkA p.s p'.marks x ≠ 0
  le2 : mkA p.s p.marks x ≤ 2 → mkA p.s p'.marks x ≤ 2

theorem markInserted_keep {p p' : PatchScope} {l : Nat} (h : p.markInserted l = .ok p') (x : Nat) (hx : p.s < x) :
    Kept p p' x := by
  obtain ⟨_, _, _, _, hch, _⟩ := markInserted_spec p p' l h
  by_cases e : mkA p.s p'.marks x = mkA p.s p.marks x
  · exact ⟨e ▸ id, e ▸ Iff.rfl, e ▸ id⟩
  · obtain ⟨h1, h2, -⟩ := hch x hx e  -- a mark that changes goes from 1 to 2
    exact { two := fun _ => h2, nz := by rw [h1, h2]; decide, le2 := fun _ => Nat.le_of_eq h2 }

/-- `markInserted` on a line `l` whose comment-adjusted line `r` is a position: the newly covered
    lines have `l` for a witness -/
theorem PS.marked {env : Env} {st st' : MState} {k : Nat × Nat} {p p' : PatchScope} {l r : Nat} {t : TScope}
    (h : PS env st k p) (hm : ∀ x ∈ st.multi, x ∈ st'.multi) (hmd : p.markInserted l = .ok p')
    (ht : searchTrees env.trees l = some t) (hk : t.search l = k)
    (hr : skipComments env (env.comments.size + 1) l = .ok r) (hrin : r ∈ st'.multi ∨ searchScopes env.funcs r = 0) :
    PS env st' k p' := by
  obtain ⟨hs, _, hsz, hl, hch, _⟩ := markInserted_spec p p' l hmd
  have keep := markInserted_keep hmd
  refine ⟨?_, ?_, ?_, ?_⟩ <;> rw [hs]
  · exact fun x hx hnz => h.init x hx ((keep x hx).nz.mpr hnz)
  · exact fun x hx hin hf => (keep x hx).nz.mp (h.initC x hx (hsz ▸ hin) hf)
  · exact fun x hx => (keep x hx).le2 (h.vals x hx)
  · intro j hj h2
    by_cases e : mkA p.s p'.marks j = mkA p.s p.marks j
    · obtain ⟨l0, t0, r0, ht0, hk0, hl0, hr0, hpos, hjoin⟩ := h.wit j hj (e ▸ h2)
      exact ⟨l0, t0, r0, ht0, hk0, hl0, hr0, hpos.imp (hm r0) id,
        fun y hy => (keep y (lt_between hj hl0 hy)).nz.mp (hjoin y hy)⟩
    · exact ⟨l, t, r, ht, hk, hl, hr, hrin, fun y hy =>
        (keep y (lt_between hj hl hy)).nz.mp (by rw [(hch j hj e).2.2 y hy]; decide)⟩

theorem forceMark_patch (env : Env) (hg : env.gran = .patch) (st st' : MState) (l : Nat)
    (hinv : PInv env st) (h : forceMark env st l = .ok st') :
    PInv env st' ∧ PMono st st' ∧
    (∀ t, searchTrees env.trees l = some t → flag env l = true → Cov st' (t.search l) l) := by
  rcases forceMark_patch_spec hg h with ⟨hn, rfl⟩ | ⟨t, ps, ps', ht, h1, hlk, h2⟩
  · exact ⟨hinv, PMono.refl _, fun t ht => by rw [hn] at ht; cases ht⟩
  have hmono : ∀ x ∈ st.multi, x ∈ st'.multi := fun _ hx => (forceMark_spec h).mono hx
  have hps : PS env st (t.search l) ps := h1.elim (hinv _ ps) fun h1 => PS.fresh h1.2
  -- `canInsert` answered, so `l` is a line of the array
  obtain ⟨hl, hin⟩ := canInsert_ok_iff.mp (h2.elim (fun h => ⟨_, h.1⟩) fun h => ⟨_, h.1⟩)
  have hnz := hps.initC l hl hin
  -- what the new scope `ps'` of the key has to satisfy; the rest is `PInv.update`
  suffices hs : PS env st' (t.search l) ps' ∧ Grows ps ps' ∧ (flag env l = true → CovIn ps' l) by
    obtain ⟨hps', hgrow, hcov⟩ := hs
    -- the scope the key had before, if it had one, is `ps`
    have hgrow' : ∀ p, st.patch.lookup (t.search l) = some p → Grows p ps' := fun p hp => by
      rcases h1 with h1 | h1
      · cases h1.symm.trans hp; exact hgrow
      · cases h1.1.symm.trans hp
    refine and_assoc.mp ⟨hinv.update hmono hlk hps' hgrow', fun t' ht' hf => ?_⟩
    cases ht.symm.trans ht'
    exact ⟨ps', by rw [hlk, if_pos (beq_self_eq_true _)], hcov hf⟩
  rcases h2 with ⟨hci, rfl⟩ | ⟨_, hmd, r, hr, hmem⟩
  · refine ⟨hps.weaken hmono, .refl _, fun hf => ?_⟩
    obtain ⟨_, j0, hj0, hle, htwo, hone⟩ := canInsert_false ps' l hci
    refine ⟨j0, hj0, hle, htwo, fun x hx1 hx2 => ?_⟩
    rcases Nat.lt_or_eq_of_le hx2 with hxl | rfl
    · rw [hone x hx1 hxl]; decide
    · exact hnz hf
  · have hrin : r ∈ st'.multi ∨ searchScopes env.funcs r = 0 :=
      Decidable.or_iff_not_imp_right.mpr fun hf => (hmem r).mpr (Or.inr ⟨rfl, hf⟩)
    obtain ⟨hs, _, _, _, _, hself⟩ := markInserted_spec ps ps' l hmd
    have keep := markInserted_keep hmd
    -- `l` is covered from itself (`j0 = l`) once its mark is 2
    refine ⟨hps.marked hmono hmd ht rfl hr hrin, ⟨hs, fun x hx => ⟨(keep x hx).two, (keep x hx).nz.mp⟩⟩,
      fun hf => ⟨l, hs ▸ hl, Nat.le_refl _, ?_, fun x hlx hxl => absurd hxl (Nat.not_le_of_lt hlx)⟩⟩
    -- the mark of `l` was 1 or 2
    have := hnz hf; have := hps.vals l hl
    rw [hs]; exact (by omega : mkA ps.s ps.marks l = 1 ∨ mkA ps.s ps.marks l = 2).elim hself (keep l hl).two

theorem flag_of_changed {env : Env} {l : Nat} (h : env.isChanged l = .ok true) : flag env l = true := by
  simp [flag, h]

theorem stepEv_patch (env : Env) (hg : env.gran = .patch) (st st' : MState) (ev : Ev)
    (hinv : PInv env st) (h : stepEv env st ev = .ok st') :
    PInv env st' ∧ PMono st st' ∧
    (∀ l, ev = .check l → env.isChanged l = .ok true → ∀ t, searchTrees env.trees l = some t → Cov st' (t.search l) l) := by
  rcases stepEv_cases rfl h h with ⟨l, hf, h, _⟩ | ⟨rfl, _, hnf⟩ | ⟨l, c, rfl, _, rfl, _⟩
  · obtain ⟨hinv', hpm, hcov⟩ := forceMark_patch env hg st st' l hinv h
    refine ⟨hinv', hpm, fun l' e hch t ht => ?_⟩
    subst e
    rcases hf with ⟨e, _⟩ | e <;> cases e
    exact hcov t ht (flag_of_changed hch)
  · exact ⟨hinv, PMono.refl _, fun l e hch => absurd (Or.inl ⟨e, hch⟩) (hnf l)⟩
  · exact ⟨fun k p hk => (hinv k p hk).weaken fun _ hx => hx, PMono.refl _, fun l' e => nomatch e⟩

theorem events_patch_fold (env : Env) (hg : env.gran = .patch) (evs : List Ev) :
    ∀ (st st' : MState), PInv env st → evs.foldlM (stepEv env) st = .ok st' →
      PInv env st' ∧ PMono st st' ∧
      ∀ l t, Ev.check l ∈ evs → env.isChanged l = .ok true → searchTrees env.trees l = some t → Cov st' (t.search l) l := by
  intro st st' hinv h
  -- `foldlM_trace` and not `run_trace`: the step is `stepEv_patch`, whose postcondition speaks of changed `check` events only
  obtain ⟨hinv', hpm, hcov⟩ := foldlM_trace (PInv env) PMono
    (fun ev s => ∀ l, ev = Ev.check l → env.isChanged l = .ok true →
      ∀ t, searchTrees env.trees l = some t → Cov s (t.search l) l) PMono.refl PMono.trans
    (fun ev _ s s' hi hs => stepEv_patch env hg s s' ev hi hs)
    (fun _ _ _ hq hle l e hch t ht => (hq l e hch t ht).mono hle) hinv h
  exact ⟨hinv', hpm, fun l t hm hch => hcov _ hm l rfl hch t⟩

/-- **patch granularity, fold level.** For every event list: if the fold terminates normally, then
    for every changed `check` event line `l` (a changed statement the walk reaches) in scope key
    `t.search l` there is a line `l0` of the same scope key whose comment-adjusted line `r0` is a
    tracking position (or lies outside every function), and every line strictly between `l0` and
    `l` is a changed line or a comment line: `l` and the tracking point of its block lie in one
    patch. (That `l0` is itself the line of an event is not stated; that the point precedes the
    statement is the order of the walk, judged per input.) -/
theorem events_patch (env : Env) (hg : env.gran = .patch) (evs : List Ev) (st' : MState)
    (h : runEvents env evs = .ok st') (l : Nat) (t : TScope)
    (hm : Ev.check l ∈ evs) (hch : env.isChanged l = .ok true) (ht : searchTrees env.trees l = some t) :
    ∃ l0 t0 r0, searchTrees env.trees l0 = some t0 ∧ t0.search l0 = t.search l ∧
      skipComments env (env.comments.size + 1) l0 = .ok r0 ∧ (r0 ∈ st'.multi ∨ searchScopes env.funcs r0 = 0) ∧
      ∀ y, (l0 < y ∧ y < l) ∨ (l < y ∧ y < l0) → flag env y = true := by
  obtain ⟨hinv, _, hcov⟩ := events_patch_fold env hg evs {} st' (fun _ _ hk => nomatch hk) h
  -- `l` is covered from a line `j0 ≤ l` marked 2, and `j0` has its witness `l0`: every `y` between `l0` and `l` has a
  -- non-zero mark, by the one clause or the other
  obtain ⟨p, hp, j0, hj0, hle, htwo, hnz⟩ := hcov l t hm hch ht
  have hps := hinv _ p hp
  obtain ⟨l0, t0, r0, ht0, hk0, hl0, hr0, hpos, hjoin⟩ := hps.wit j0 hj0 htwo
  refine ⟨l0, t0, r0, ht0, hk0, hr0, hpos, fun y hy => ?_⟩
  rcases hy with ⟨y1, y2⟩ | ⟨y1, y2⟩
  · refine hps.init y (Nat.lt_trans hl0 y1) ?_
    rcases Nat.lt_trichotomy y j0 with hyj | rfl | hyj
    · exact hjoin y (Or.inr ⟨y1, hyj⟩)
    · rw [htwo]; decide
    · exact hnz y hyj (Nat.le_of_lt y2)
  · have hj : j0 < y := Nat.lt_of_le_of_lt hle y1
    exact hps.init y (Nat.lt_trans hj0 hj) (hjoin y (Or.inl ⟨hj, y2⟩))

/-- **C03, patch granularity (partial: statements in the positions the walk enters), the patch itself.**
    For every abstract file and changed-line set on which the tracker terminates normally at patch
    granularity: for a marking statement of a declared function's body that the statement walk
    reaches, whose first line `l` is changed and lies in the innermost track scope `t.search l`, the
    tracker has put a tracking block before the comment-adjusted line `r0` of a line `l0` of that
    same block (or `r0` lies outside every function), and every line strictly between `l0` and `l`
    is changed or a comment line — the statement and the tracking point lie in one contiguous patch
    of its block. -/
theorem patch_run_guard_partial (f : File) (ranges : List (Nat × Nat)) (m : Marks)
    (h : marks f .patch ranges = .ok m)
    (lb rb : Nat) (p : Nat × Nat) (stmts : List Stmt)
    (hd : Decl.funcDecl (some (lb, rb, some p, stmts)) ∈ f.decls)
    (l : Nat) (hw : WalkedL l stmts)
    (env : Env) (henv : mkEnv f .patch ranges = .ok env)
    (hch : env.isChanged l = .ok true)
    (t : TScope) (ht : searchTrees env.trees l = some t) :
    ∃ l0 t0 r0, searchTrees env.trees l0 = some t0 ∧ t0.search l0 = t.search l ∧
      skipComments env (env.comments.size + 1) l0 = .ok r0 ∧ (r0 ∈ m.multi ∨ searchScopes env.funcs r0 = 0) ∧
      ∀ y, (l0 < y ∧ y < l) ∨ (l < y ∧ y < l0) → flag env y = true := by
  obtain ⟨hg, st, hst, hm⟩ := marks_run h henv
  obtain ⟨l0, t0, r0, h1, h2, h3, h4, h5⟩ := events_patch env hg _ st hst l t (walked_fileEvents hd hw) hch ht
  exact ⟨l0, t0, r0, h1, h2, h3, h4.imp (hm r0).mpr id, h5⟩

/-- non-vacuity of `events_patch`: function block (2, 8); changed lines 4, 5 (one patch) and 7
    (line 6 is unchanged: another patch): tracking points at 4 and 7; the statement on line 5 is
    covered by the point of line 4 (no line in between), the one on line 7 by its own -/
def examplePatchEnv : Env :=
  { gran := .patch, n := 8,
    changed := #[false, false, false, false, true, true, false, true, false],
    comments := #[false, false, false, false, false, false, false, false, false],
    funcs := [(1, 9), (2, 8)], trees := [.mk 2 8 []] }

example : (runEvents examplePatchEnv [.check 4, .check 5, .check 7]).toOption.map (·.multi) = some [4, 7] := by
  -- `decide` is stuck on `searchChildren` (well-founded recursion does not reduce): `simp` with the equations instead
  simp [runEvents, stepEv, forceMark, examplePatchEnv, searchTrees, TScope.search, searchChildren, markInsert,
    skipComments, Env.isChanged, Env.isComment, searchScopes, TScope.s, TScope.e, bind, Except.bind,
    Except.toOption, pure, Except.pure, newPatchScope, newPatchScope.fill, PatchScope.canInsert, PatchScope.canInsert.back,
    PatchScope.get, PatchScope.markInserted, PatchScope.markInserted.down, PatchScope.markInserted.up]

end GoatSpec.C03
