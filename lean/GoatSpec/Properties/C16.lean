import GoatSpec.Proofs.Config
/-! # C16 — goat init writes a configuration that loads back unchanged

Model: `GoatSpec/Config.lean` (`validate` = `Config.Validate`, `preprocess` = the flag handling of
`goat init`, `render` = interpreter of the segment table of CONFIG_TEMPLATE extracted from the
compiled package, `load` = line-level loader of the emitted YAML shapes followed by `validate`).

The round-trip, rejection, idempotence and defaults theorems quantify over **all** configurations /
flag records / environments. What they use of the extracted data is checked by closed evaluations,
re-done by the kernel whenever that data changes: the template table (`table_checked`, read as
`table_is_entries` and `table_wf`), the accepted granularity and data-type names
(`granularityOK_safe`, `dataTypeOK_safe`), the default values (`baseIgnores_default`, the `rfl`s of
`defaults`). Closed as a whole: `yaml_keys_tied`, `template_not_escaped`, the flag record of
`defaults_no_flags`, the two witnesses and the non-vacuity examples. -/
namespace GoatSpec.C16
open GoatSpec GoatSpec.Config

/-- the segment table regrouped into entries (comment lines, key, Go field, shape) -/
def tableEntries : List Entry := toEntries true Extracted.configTemplate

/-- the statements of `table_is_entries` and `table_wf` in one evaluation, so that the kernel regroups the table once -/
theorem table_checked : fromEntries true tableEntries = Extracted.configTemplate ∧
    tableEntries ≠ [] ∧ tableEntries.all (fun e => staticOK e && fieldsOK e) = true ∧ sigsOK tableEntries = true := by
  decide +kernel

/-- the regrouping loses nothing: rebuilding the segment table from the entries gives back
    exactly what `vh extract` printed from `text/template/parse` -/
theorem table_is_entries : fromEntries true tableEntries = Extracted.configTemplate :=
  table_checked.1

/-- every entry is well-formed: the lines before the key line are comments or blank and contain
    no newline, keys are alphanumeric, scalar entries refer to scalar fields, the unquoted list
    is `Ignores`, the quoted (`printf "%q"`) lists are `MainEntries` / `PrinterConfigMode`, and
    each of the 19 yaml keys the loader reads is carried by the entry of the matching Go field -/
theorem table_wf :
    tableEntries ≠ [] ∧ tableEntries.all (fun e => staticOK e && fieldsOK e) = true ∧ sigsOK tableEntries = true :=
  table_checked.2

/-- `InitWithConfig` writes values verbatim (behavioural probe of the real function; `true` on
    the tree that executed the template with html/template) -/
theorem template_not_escaped : Extracted.templateHtmlEscape = false := rfl

/-- the struct tags of `config.Config` as extracted (Go field, yaml key) are the list `modelKeys`.
    That `fromRaw` reads exactly these keys is seen by eye against `modelKeys`, not proved; what is
    proved of `fromRaw`'s reads is that the template's entries answer them (`sigsOK` in `table_wf`,
    used by `fromRaw_rawOf`) -/
theorem yaml_keys_tied : Extracted.configYamlKeys = modelKeys := by decide

/-- rendering never fails on a configuration of the class, and the written text unmarshals to
    exactly that configuration (before `Validate` runs again) -/
theorem render_unmarshal (c : Cfg) (hc : RoundTripOK c) :
    ∃ text, render c = .ok text ∧ unmarshal text = some c := by
  obtain ⟨_, hall, hsig⟩ := table_wf
  have hst : ∀ e ∈ tableEntries, staticOK e = true ∧ fieldsOK e = true := by simpa using hall
  obtain ⟨hseg, hu⟩ := render_unmarshal_entries hc hst hsig
  rw [table_is_entries] at hseg hu
  exact ⟨_, by rw [render, hseg, template_not_escaped]; rfl, hu⟩

/-- **C16 (idempotence).** Validating a validated configuration changes nothing: the four checks read
    values that defaulting leaves fixed. -/
theorem validate_idempotent (env : Env) (c c' : Cfg) (h : validate env c = .ok c') : validate env c' = .ok c' := by
  obtain ⟨hi, ver, hv, rfl⟩ := validate_ok_iff.mp h
  refine validate_ok_iff.mpr ⟨?_, ver, version_validated hv, validated_idem env c ver⟩
  simpa [Invalid, validated, orDefault_idem, ite_nil_idem] using hi

/-- **C16 (round trip).** For every configuration `c` that `Validate` accepts in environment
    `env` (directory name and commit-hash resolver arbitrary, CPU count not negative) and whose free-text
    strings after defaulting are plain-scalar safe (`safeCfg`: first character a letter, digit,
    `_ . /`, then letters, digits, `_ - . / + & < > ' "` and inner spaces, not a YAML null word), `goat init` writes a
    file from which `LoadConfig` returns exactly the validated configuration. `mainEntries` and
    `printerConfigMode` entries are unrestricted: they are written with `%q`, which the model
    (`quoteChar`) follows on printable text and `\n \t \r` only. -/
theorem roundtrip (env : Env) (c c' : Cfg) (hv : validate env c = .ok c') (hcpu : 0 ≤ env.numCPU)
    (hs : safeCfg c' = true) : ∃ text, render c' = .ok text ∧ load env text = .ok c' := by
  obtain ⟨text, hr, hu⟩ := render_unmarshal c' (roundTripOK_of_validate hv hcpu hs)
  exact ⟨text, hr, by rw [load, hu]; exact validate_idempotent env c c' hv⟩

/-- the same at the level of the command: whenever `goat init` writes a file, loading it yields
    the values given on the command line after the documented defaulting -/
theorem init_roundtrip (env : Env) (fileExists : Bool) (f : Flags) (text : Str) (c' : Cfg)
    (hi : initPlan env fileExists f = .ok text) (hv : validate env (preprocess f) = .ok c')
    (hcpu : 0 ≤ env.numCPU) (hs : safeCfg c' = true) : load env text = .ok c' := by
  obtain ⟨t, hr, hl⟩ := roundtrip env _ c' hv hcpu hs
  simp only [initPlan, hv, hr] at hi
  split at hi
  · cases hi
  · rw [← Except.ok.inj hi]
    exact hl

/-- **C16 (invalid values).** An invalid granularity, a diff precision outside 1..3, an invalid
    printer mode or an invalid data type makes `Validate` fail (a success would give `¬ Invalid c`:
    `validate_ok_iff`) … -/
theorem invalid_rejected (env : Env) (c : Cfg) (hbad : Invalid c) : ∃ r, validate env c = .error r := by
  cases hv : validate env c with
  | error r => exact ⟨r, rfl⟩
  | ok c' => exact absurd hbad (validate_ok_iff.mp hv).1

/-- … so `goat init` writes nothing (its plan is a rejection, with or without `--force`,
    whether or not goat.yaml exists) … -/
theorem invalid_init_writes_nothing (env : Env) (fileExists : Bool) (f : Flags) (hbad : Invalid (preprocess f)) :
    ∃ r, initPlan env fileExists f = .error r := by
  obtain ⟨r, hr⟩ := invalid_rejected env _ hbad
  unfold initPlan
  split
  · exact ⟨_, rfl⟩
  · rw [hr]; exact ⟨r, rfl⟩

/-- … and `LoadConfig` fails on every file that carries such a value. -/
theorem invalid_load_fails (env : Env) (text : Str) (c : Cfg) (hu : unmarshal text = some c) (hbad : Invalid c) :
    ∃ r, load env text = .error r := by
  obtain ⟨r, hr⟩ := invalid_rejected env c hbad
  exact ⟨r, by rw [load, hu]; exact hr⟩

/-- a rejected init leaves a pre-existing file alone: without `--force` the plan is a rejection -/
theorem existing_file_kept (env : Env) (f : Flags) (hf : f.force = false) :
    initPlan env true f = .error .fileExists := by
  simp [initPlan, hf]

/-- **C16 (defaults).** Unset values take the documented defaults and set values are kept. -/
theorem defaults (env : Env) (c c' : Cfg) (h : validate env c = .ok c') :
    c'.granularity = (if c.granularity = [] then "patch".toList else c.granularity) ∧
    c'.oldBranch = (if c.oldBranch = [] then "main".toList else c.oldBranch) ∧
    c'.newBranch = (if c.newBranch = [] then "HEAD".toList else c.newBranch) ∧
    c'.appName = (if c.appName = [] then env.cwdBase else c.appName) ∧
    (c.appVersion ≠ [] → c'.appVersion = c.appVersion) ∧
    (c.appVersion = [] → env.shortHash c'.newBranch = some c'.appVersion) ∧
    c'.pkgName = (if c.pkgName = [] then "goat".toList else c.pkgName) ∧
    c'.pkgAlias = (if c.pkgAlias = [] then "goat".toList else c.pkgAlias) ∧
    c'.pkgPath = (if c.pkgPath = [] then "goat".toList else c.pkgPath) ∧
    c'.dataType = (if c.dataType = [] then "bool".toList else c.dataType) ∧
    c'.threads = (if c.threads ≤ 0 then env.numCPU else c.threads) ∧
    c'.tabwidth = (if c.tabwidth < 1 then 8 else c.tabwidth) ∧
    c'.indent = (if c.indent < 0 then 0 else c.indent) ∧
    c'.mainEntries = (if c.mainEntries = [] then [['*']] else c.mainEntries) ∧
    c'.printerModes = (if c.printerModes = [] then ["useSpaces".toList, "tabIndent".toList] else c.printerModes) ∧
    (c.ignores = [] → c.pkgPath = [] → c'.ignores = Extracted.defaultIgnores.map String.toList) ∧
    (c.ignores ≠ [] → genFile c'.pkgPath ∈ c.ignores → c'.ignores = c.ignores) ∧
    (c.ignores ≠ [] → genFile c'.pkgPath ∉ c.ignores → c'.ignores = c.ignores ++ [genFile c'.pkgPath]) ∧
    c'.diffPrecision = c.diffPrecision ∧ c'.race = c.race ∧ c'.verbose = c.verbose ∧ c'.skipNested = c.skipNested := by
  obtain ⟨_, ver, hver, rfl⟩ := validate_ok_iff.mp h
  unfold version at hver
  -- all but the two conjuncts on the version and the three on the ignore list hold by unfolding `validated`
  refine ⟨rfl, rfl, rfl, rfl, ?verGiven, ?verResolved, rfl, rfl, rfl, rfl, rfl, rfl, rfl, rfl, rfl,
    ?ignDefault, ?ignKept, ?ignAppended, rfl, rfl, rfl, rfl⟩
  case verGiven =>
    intro ha
    rw [if_neg ha] at hver
    exact (Option.some.inj hver).symm
  case verResolved =>
    intro ha
    rw [if_pos ha] at hver
    exact hver
  case ignDefault =>
    intro hi hp
    simp only [validated, hi, hp, orDefault, if_true]
    exact baseIgnores_default
  all_goals    -- `ignKept`, `ignAppended`
    intro hi hm
    dsimp only [validated] at hm
    simp [validated, hi, hm]

/-- `goat init` without any flag: the configuration written is the documented default one -/
theorem defaults_no_flags (env : Env) (ver : Str) (h : env.shortHash "HEAD".toList = some ver) :
    validate env (preprocess Flags.none) = .ok
      { appName := env.cwdBase, appVersion := ver, oldBranch := "main".toList, newBranch := "HEAD".toList,
        ignores := [".git", ".gitignore", ".DS_Store", ".idea", ".vscode", ".venv", "vendor", "testdata",
                    "node_modules", "goat/goat_generated.go"].map String.toList,
        pkgName := "goat".toList, pkgAlias := "goat".toList, pkgPath := "goat".toList, granularity := "patch".toList,
        diffPrecision := 1, threads := 1, race := false, mainEntries := [['*']],
        printerModes := ["useSpaces".toList, "tabIndent".toList], tabwidth := 8, indent := 0,
        dataType := "bool".toList, verbose := false, skipNested := true } := by
  rw [validate_ok_iff.mpr ⟨show ¬ Invalid (preprocess Flags.none) by unfold Invalid; decide, ver, h, rfl⟩]
  have hi : (preprocess Flags.none).ignores = [] := rfl
  have hp : orDefault (preprocess Flags.none).pkgPath Extracted.defaultPackagePath.toList
      = Extracted.defaultPackagePath.toList := rfl
  simp only [validated, hi, hp, if_true, baseIgnores_default]
  rfl

def envW : Env := { numCPU := 16, cwdBase := "a&b".toList, shortHash := fun _ => some "9fbca70".toList }

/-- flags `--app-version 1.0.0+build --new feature/c++ --old "it's" --ignores 'third_party/a+b,x y'
    --main-entries 'cmd/a"b,*' --granularity func --diff-precision 2 --threads 0` in directory `a&b` -/
def flagsW : Flags :=
  { Flags.none with appVersion := some "1.0.0+build".toList, new := some "feature/c++".toList,
                    old := some "it's".toList, ignores := some "third_party/a+b,x y".toList,
                    mainEntries := some "cmd/a\"b,*".toList, granularity := some "func".toList,
                    diffPrecision := some 2, threads := some 0 }

def cfgW : Cfg :=
  { appName := "a&b".toList, appVersion := "1.0.0+build".toList, oldBranch := "it's".toList,
    newBranch := "feature/c++".toList,
    ignores := ["third_party/a+b".toList, "x y".toList, "goat/goat_generated.go".toList], pkgName := "goat".toList,
    pkgAlias := "goat".toList, pkgPath := "goat".toList, granularity := "func".toList, diffPrecision := 2, threads := 16,
    race := false, mainEntries := ["cmd/a\"b".toList, ['*']], printerModes := ["useSpaces".toList, "tabIndent".toList],
    tabwidth := 8, indent := 0, dataType := "bool".toList, verbose := false, skipNested := true }

/-- non-vacuity of `roundtrip` / `init_roundtrip`: a flag record with `+ & < > ' "` and spaces
    satisfies the hypotheses (defaulting included: appName from the directory, threads from the
    CPU count, the generated file appended to the ignores) -/
example : (validate envW (preprocess flagsW)).toOption = some cfgW ∧ 0 ≤ envW.numCPU ∧ safeCfg cfgW = true := by
  decide +kernel

/-- … and, evaluated independently of the proof, the model's init followed by the model's load
    returns exactly those values -/
example : ((initPlan envW false flagsW).toOption.map (fun t => (load envW t).toOption)) = some (some cfgW) := by
  decide +kernel

/-- *witness* (D-C16-1, the defect of the tree before the fix): with html/template's escaper
    `1.0.0+build` is written as `1.0.0&#43;build`, which YAML reads as that literal string, and
    the table executed with the escaper does not round-trip the configuration -/
theorem html_escape_breaks_roundtrip :
    parseScalar (esc true "1.0.0+build".toList) = .str "1.0.0&#43;build".toList ∧
    (load envW (renderSegs true cfgW Extracted.configTemplate)).toOption ≠ some cfgW := by
  decide +kernel

/-- *witness*: outside `safeCfg` the statement fails — a trailing space is not preserved by a
    YAML plain scalar (`--app-name "x "` loads back as `x`) -/
theorem trailing_space_not_preserved :
    safeStr "x ".toList = false ∧
    (load envW (renderSegs false { cfgW with appName := "x ".toList } Extracted.configTemplate)).toOption.map (·.appName)
      = some "x".toList := by
  decide +kernel

/-- non-vacuity of `invalid_rejected`: each of the four kinds of invalid value is an instance -/
example : Invalid { cfgW with granularity := "block".toList } ∧ Invalid { cfgW with diffPrecision := 4 } ∧
    Invalid { cfgW with printerModes := ["none".toList] } ∧ Invalid { cfgW with dataType := "int".toList } := by
  refine ⟨Or.inl (by decide), Or.inr (Or.inr (Or.inl (by decide))), Or.inr (Or.inr (Or.inr (Or.inl (by decide)))),
    Or.inr (Or.inr (Or.inr (Or.inr (by decide))))⟩

/-- non-vacuity of `validate_idempotent` / `defaults`: validation succeeds on an all-empty record -/
example : ∃ c', validate envW
    { appName := [], appVersion := [], oldBranch := [], newBranch := [], ignores := [], pkgName := [], pkgAlias := [],
      pkgPath := [], granularity := [], diffPrecision := 1, threads := 0, race := false, mainEntries := [],
      printerModes := [], tabwidth := 0, indent := -1, dataType := [], verbose := false, skipNested := true } = .ok c' :=
  ⟨_, validate_ok_iff.mpr ⟨by unfold Invalid; decide, "9fbca70".toList, rfl, rfl⟩⟩

/-- non-vacuity of `defaults_no_flags` -/
example : envW.shortHash "HEAD".toList = some "9fbca70".toList := rfl

end GoatSpec.C16
