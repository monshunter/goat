import GoatSpec.Proofs.Clean
import GoatSpec.Properties.C05
import GoatSpec.SkelSpec
/-! # C10 — goat patch applies manual markers exactly and renumbers consistently
    (text level: the passes of `PatchExecutor.prepareContent`; numbering: `replaceTracks`).

For every well-formed arrangement of user lines, marker blocks and insert markers — any length,
any order. Whether the project still compiles and the regenerated tables are end-to-end oracles. -/
namespace GoatSpec.C10
open GoatSpec

/-- **C10 (arrangements).** Delete-marked blocks vanish with their call, every insert marker is replaced in place by one well-formed tracking block,
    every other tracking block is kept (reset to the placeholder block), user blocks and — in
    files that are not main entries — service-start blocks are kept, main-entry files lose their
    service-start blocks (re-applied later), and the non-blank user lines are preserved in
    order. The file counts as *updated* iff it holds a delete, insert, generate (or, for main
    entries, main) item, and sets the executor's *changed* flag iff it holds a delete or insert
    marker. -/
theorem patch_wf (isMain : Bool) (items : List Item) (hwf : ∀ it ∈ items, it.wf = true) :
    nonBlank (patchLines isMain (flatten items)).lines = nonBlank (flatten (patchExpected isMain items))
    ∧ (patchLines isMain (flatten items)).changed = items.any (fun it => isK .delete it || isK .insert it)
    ∧ (patchLines isMain (flatten items)).updated
        = items.any (fun it => isK .delete it || isK .insert it || isK .generate it || (isMain && isK .main it)) := by
  obtain ⟨a, hc, hu, -⟩ := patch_arr isMain (Arr.of_items hwf)
  refine ⟨a.nonBlank_eq, by rw [hc, any_or], ?_⟩
  rw [hu, any_or, any_or, any_or]
  cases isMain <;> simp

/-- the import edits of `patchLines`, by the kinds of item present (`d`elete, `i`nsert,
    `g`enerate, mai`n`): a truth table -/
theorem import_bool : ∀ {m d i g n : Bool}, (m || !n) = true →
    applyImports (g || d || n) ((if d && !g then [ImportAct.delete] else []) ++ (if i then [ImportAct.add] else [])
      ++ (if m && n && !(g || i) then [ImportAct.delete] else [])) = (g || i) := by
  decide

/-- **C10 (tracking import).** For every well-formed arrangement in a file whose import state is
    consistent with its blocks, the import edits recorded by the passes leave the file importing
    the tracking package iff a tracking block is left in it — so a block written for an insert
    marker is never left without its import and a file that lost its last block never keeps an
    unused one (either would stop the project from compiling). -/
theorem patch_import (isMain imp : Bool) (items : List Item) (hwf : ∀ it ∈ items, it.wf = true)
    (hc : importConsistent isMain imp items = true) :
    applyImports imp (patchLines isMain (flatten items)).imports = importExpected isMain items := by
  obtain ⟨-, -, -, hi⟩ := patch_arr isMain (Arr.of_items hwf)
  have he : importExpected isMain items = (items.any (isK .generate) || items.any (isK .insert)) := by
    rw [importExpected, patchExpected_eq_replaceK]
    cases isMain <;> simp [-List.any_eq_true, any_isK_replaceK_ne, any_isK_replaceK_self, isK_genBlock]
  rw [importConsistent, any_or, any_or, Bool.and_eq_true, beq_iff_eq] at hc
  rw [hi, he, hc.1]
  -- `m := isMain`; `d`, `i`, `g`, `n` := `items.any (isK k)` for `k` = delete, insert, generate, main
  exact import_bool hc.2

/-- non-vacuity of `patch_import`: an instrumented file whose every block is delete-marked and
    which also carries an insert marker (the arrangement a premature "import already present"
    shortcut gets wrong) -/
example : importConsistent false true
    [Item.block .delete Extracted.trackDeleteComment [['y']] Extracted.trackEndComment,
     Item.ins Extracted.trackInsertComment] = true
  ∧ importExpected false
    [Item.block .delete Extracted.trackDeleteComment [['y']] Extracted.trackEndComment,
     Item.ins Extracted.trackInsertComment] = true := by decide

/-- **without delete/insert markers patch changes nothing**: for **every** text, if no line is an
    insert marker and no delete-start line is followed by an end line, the executor's `changed`
    flag stays false (so `apply` is never entered and nothing is written). -/
theorem patch_noop (isMain : Bool) (l : List Line) (hd : hasM .delete l = false) (hi : hasM .insert l = false) :
    (patchLines isMain l).changed = false := by
  simp only [patchLines, pass_noM hd, pass_noM hi]
  rfl

/-- **renumbering**: the files kept by the passes, in sorted order, receive the ids 1..N in
    file then source order (this is `C05.ids_exact` for the *updated* files) -/
theorem patch_numbering (fs : List (String × Nat)) :
    (number 1 fs).flatMap idsOf = List.range' 1 (totalCount fs) := C05.ids_exact fs

/-- **N = 0**: when no placeholder is left, the total id list is empty — the executor removes
    the generated file and re-applies no service-start block -/
theorem patch_zero (fs : List (String × Nat)) (h : totalCount fs = 0) : totalIds (number 1 fs) = [] := by
  rw [C05.total_ids, h]; rfl

/-- non-vacuity: an arrangement with every kind of item -/
example : ∀ it ∈ [Item.user ['x'], genBlockItem, Item.ins Extracted.trackInsertComment,
    Item.block .delete Extracted.trackDeleteComment [['y']] Extracted.trackEndComment,
    Item.block .main Extracted.trackMainEntryComment [['s']] Extracted.trackEndComment], it.wf = true := by
  decide

/-! The order of the passes, read off the source (`vh skeleton`, regenerated on every run). -/
section skeleton
open GoatSpec.SkelSpec

/-- The three theorems below in one kernel evaluation: finding a function among the names of the
    skeleton (string comparisons) is nearly all of the work, and one evaluation reads the names once. -/
theorem patch_in_source :
    ((callOrder "pkg/goat.PatchExecutor.prepareContent").filter (· ≠ "pkg/config.Config.PrinterConfig") =
      ["pkg/goat.handleGoatDelete", "pkg/goat.handleGoatInsert", "pkg/goat.resetGoatGenerate", "pkg/goat.resetGoatMain"])
    ∧ (refOrder "pkg/goat.handleGoatDelete" = ["pkg/config.TrackDeleteEndRegexp", "pkg/config.TrackGenerateEndRegexp"]
      ∧ refOrder "pkg/goat.handleGoatInsert" = ["pkg/config.TrackInsertRegexp"]
      ∧ refOrder "pkg/goat.resetGoatGenerate" = ["pkg/config.TrackGenerateEndRegexp"]
      ∧ refOrder "pkg/goat.resetGoatMain" = ["pkg/config.TrackMainEntryEndRegexp", "pkg/config.TrackGenerateEndRegexp"])
    ∧ (callOrder "pkg/goat.PatchExecutor.apply").filter (fun f => f ≠ "pkg/config.Config.GoatGeneratedFile") =
      ["pkg/goat.PatchExecutor.replaceTracks", "pkg/goat.PatchExecutor.applyTracks", "pkg/goat.getComponentTrackIdxs",
       "pkg/tracking/increment.NewValues", "pkg/tracking/increment.Values.AddComponent", "pkg/goat.getTotalTrackIdxs",
       "pkg/tracking/increment.Values.Remove", "pkg/utils.IsDirEmpty",
       "pkg/tracking/increment.Values.AddTrackIds", "pkg/tracking/increment.Values.IsEmpty",
       "pkg/tracking/increment.Values.Save", "pkg/goat.applyMainEntries"] := by decide +kernel

/-- **`PatchExecutor.prepareContent` runs delete, insert, reset-generate, reset-main in the order
    `patchLines` composes them** -/
theorem patch_pass_order_in_source :
    (callOrder "pkg/goat.PatchExecutor.prepareContent").filter (· ≠ "pkg/config.Config.PrinterConfig") =
    ["pkg/goat.handleGoatDelete", "pkg/goat.handleGoatInsert", "pkg/goat.resetGoatGenerate", "pkg/goat.resetGoatMain"] :=
  patch_in_source.1

/-- each pass replaces with the regular expression of its marker kind; the delete pass and the reset of the main
    entry also search for a generate block (`TrackGenerateEndRegexp`): none left means the import goes too -/
theorem patch_pass_regexps :
    refOrder "pkg/goat.handleGoatDelete" = ["pkg/config.TrackDeleteEndRegexp", "pkg/config.TrackGenerateEndRegexp"]
    ∧ refOrder "pkg/goat.handleGoatInsert" = ["pkg/config.TrackInsertRegexp"]
    ∧ refOrder "pkg/goat.resetGoatGenerate" = ["pkg/config.TrackGenerateEndRegexp"]
    ∧ refOrder "pkg/goat.resetGoatMain" = ["pkg/config.TrackMainEntryEndRegexp", "pkg/config.TrackGenerateEndRegexp"] :=
  patch_in_source.2.1

/-- `apply`: renumber, save the sources, then the generated file (removed when no id is left,
    together with the emptied package directory), then the main entries -/
theorem patch_apply_order_in_source :
    (callOrder "pkg/goat.PatchExecutor.apply").filter (fun f => f ≠ "pkg/config.Config.GoatGeneratedFile") =
    ["pkg/goat.PatchExecutor.replaceTracks", "pkg/goat.PatchExecutor.applyTracks", "pkg/goat.getComponentTrackIdxs",
     "pkg/tracking/increment.NewValues", "pkg/tracking/increment.Values.AddComponent", "pkg/goat.getTotalTrackIdxs",
     "pkg/tracking/increment.Values.Remove", "pkg/utils.IsDirEmpty",
     "pkg/tracking/increment.Values.AddTrackIds", "pkg/tracking/increment.Values.IsEmpty",
     "pkg/tracking/increment.Values.Save", "pkg/goat.applyMainEntries"] := patch_in_source.2.2

end skeleton

end GoatSpec.C10
