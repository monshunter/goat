import GoatSpec.Cmd
import GoatSpec.Proofs.Skel
/-! # C12 — refused or failed commands leave the working tree untouched.

The model evaluates the preconditions in the order of the code and only then produces a write
plan, so a refusal carries no write by construction; the theorems state, precondition by
precondition, that its failure is a refusal. The tie is `e2e refusals`: for every scenario the
real command's exit status, the hook's write log, and sha256 of every work-tree file, the git
index, HEAD and refs, compared with this plan. -/
namespace GoatSpec.C12
open GoatSpec

def writesOf (r : Except Refusal (List Write)) : List Write :=
  match r with | .ok ws => ws | .error _ => []

/-- a refusal writes nothing: this holds by the definition of `writesOf`, the content is in the type
    of `plan` (a refusal is a value that carries no write plan) -/
theorem refused_no_writes (e : CmdEnv) (c : Cmd) (r : Refusal) (h : plan e c = .error r) :
    writesOf (plan e c) = [] := by
  rw [h]
  rfl

theorem plan_of_preRun {e : CmdEnv} {r : Refusal} (c : Cmd) (h : preRun e = some r) : plan e c = .error r := by
  cases c <;> simp only [plan, h]

theorem plan_of_loadCfg {e : CmdEnv} {c : Cmd} {r : Refusal} (hc : c ≠ .init) (hp : preRun e = none)
    (hl : loadCfg e = some r) : plan e c = .error r := by
  cases c with
  | init => exact absurd rfl hc
  | track | patch | clean => simp only [plan, hp, hl]

theorem preRun_eq_none {e : CmdEnv} (h1 : e.goMod = true) (h2 : e.dotGit = true) : preRun e = none := by
  simp [preRun, h1, h2]

theorem not_go_module (e : CmdEnv) (c : Cmd) (h : e.goMod = false) : plan e c = .error .notGoModule :=
  plan_of_preRun c (by simp [preRun, h])

theorem not_git_repo (e : CmdEnv) (c : Cmd) (h1 : e.goMod = true) (h : e.dotGit = false) :
    plan e c = .error .notGitRepo :=
  plan_of_preRun c (by simp [preRun, h1, h])

theorem config_missing (e : CmdEnv) (c : Cmd) (hc : c ≠ .init) (h1 : e.goMod = true) (h2 : e.dotGit = true)
    (h : e.configExists = false) : plan e c = .error .configMissing :=
  plan_of_loadCfg hc (preRun_eq_none h1 h2) (by simp [loadCfg, h])

theorem config_invalid (e : CmdEnv) (c : Cmd) (hc : c ≠ .init) (h1 : e.goMod = true) (h2 : e.dotGit = true)
    (h3 : e.configExists = true) (h : (e.configParses && e.configValid) = false) :
    plan e c = .error .configInvalid :=
  plan_of_loadCfg hc (preRun_eq_none h1 h2) (by simp [loadCfg, h3, h])

theorem init_existing (e : CmdEnv) (h1 : e.goMod = true) (h2 : e.dotGit = true)
    (h3 : e.configExists = true) (h4 : e.force = false) : plan e .init = .error .configExists := by
  simp [plan, preRun_eq_none h1 h2, h3, h4]

theorem init_invalid (e : CmdEnv) (h1 : e.goMod = true) (h2 : e.dotGit = true)
    (h3 : (e.configExists && !e.force) = false) (h4 : e.initFlagsValid = false) :
    plan e .init = .error .configInvalid := by
  simp [plan, preRun_eq_none h1 h2, h3, h4]

/-! track: each remaining precondition, given that the earlier ones hold -/

/-- `preRun` and `loadCfg` pass (the theorems on patch and clean assume it too) -/
structure TrackReady (e : CmdEnv) : Prop where
  goMod : e.goMod = true
  dotGit : e.dotGit = true
  cfgE : e.configExists = true
  cfgP : e.configParses = true
  cfgV : e.configValid = true

theorem TrackReady.preRun_none {e : CmdEnv} (r : TrackReady e) : preRun e = none := preRun_eq_none r.goMod r.dotGit

theorem TrackReady.loadCfg_none {e : CmdEnv} (r : TrackReady e) : loadCfg e = none := by
  simp [loadCfg, r.cfgE, r.cfgP, r.cfgV]

theorem track_already_instrumented (e : CmdEnv) (r : TrackReady e) (h : e.generatedExists = true) :
    plan e .track = .error .alreadyInstrumented := by
  simp [plan, r.preRun_none, r.loadCfg_none, h]

theorem track_uncommitted (e : CmdEnv) (r : TrackReady e) (hg : e.generatedExists = false)
    (h : e.worktreeClean = false) : plan e .track = .error .uncommitted := by
  simp [plan, r.preRun_none, r.loadCfg_none, hg, h]

theorem track_old_unresolvable (e : CmdEnv) (r : TrackReady e) (hg : e.generatedExists = false)
    (hw : e.worktreeClean = true) (hi : e.isInit = false) (h : e.oldResolves = false) :
    plan e .track = .error .oldUnresolvable := by
  simp [plan, r.preRun_none, r.loadCfg_none, hg, hw, hi, h]

theorem track_new_not_head (e : CmdEnv) (r : TrackReady e) (hg : e.generatedExists = false)
    (hw : e.worktreeClean = true) (hi : e.isInit = false) (ho : e.oldResolves = true)
    (hn : e.newResolves = true) (h : e.newIsHead = false) :
    plan e .track = .error .newNotHead := by
  simp [plan, r.preRun_none, r.loadCfg_none, hg, hw, hi, ho, hn, h]

theorem track_no_main (e : CmdEnv) (r : TrackReady e) (hg : e.generatedExists = false)
    (hw : e.worktreeClean = true) (hrev : e.isInit = true ∨ (e.oldResolves = true ∧ e.newResolves = true ∧ e.newIsHead = true))
    (h : e.hasMain = false) : plan e .track = .error .noMain := by
  rcases hrev with hi | ⟨ho, hn, hh⟩ <;> simp [plan, r.preRun_none, r.loadCfg_none, *]

theorem track_parse_error (e : CmdEnv) (r : TrackReady e) (hg : e.generatedExists = false)
    (hw : e.worktreeClean = true) (hrev : e.isInit = true ∨ (e.oldResolves = true ∧ e.newResolves = true ∧ e.newIsHead = true))
    (hm : e.hasMain = true) (h : e.changedFilesParse = false) : plan e .track = .error .parseError := by
  rcases hrev with hi | ⟨ho, hn, hh⟩ <;> simp [plan, r.preRun_none, r.loadCfg_none, *]

/-- patch and clean: a marked file that does not parse is a refusal (all files are prepared,
    hence parsed, before the first write) -/
theorem patch_clean_parse_error (e : CmdEnv) (r : TrackReady e) (hm : e.hasMain = true)
    (hk : e.hasMarkers = true) (h : e.changedFilesParse = false) :
    plan e .patch = .error .parseError ∧ plan e .clean = .error .parseError :=
  ⟨by simp [plan, r.preRun_none, r.loadCfg_none, hm, hk, h], by simp [plan, r.preRun_none, r.loadCfg_none, hk, h]⟩

/-- **a successful run that finds nothing to do changes nothing** -/
theorem nothing_to_do_no_writes (e : CmdEnv) (r : TrackReady e) (hm : e.hasMain = true) :
    (e.generatedExists = false → e.worktreeClean = true →
      (e.isInit = true ∨ (e.oldResolves = true ∧ e.newResolves = true ∧ e.newIsHead = true)) →
      e.changedFilesParse = true → e.hasPoints = false → plan e .track = .ok [])
    ∧ (e.hasMarkers = false → plan e .patch = .ok [])
    ∧ (e.hasMarkers = false → plan e .clean = .ok []) := by
  refine ⟨fun hg hw hrev hp hpts => ?_, fun h => ?_, fun h => ?_⟩
  · rcases hrev with hi | ⟨ho, hn, hh⟩ <;> simp [plan, r.preRun_none, r.loadCfg_none, *]
  · simp [plan, r.preRun_none, r.loadCfg_none, hm, h]
  · simp [plan, r.preRun_none, r.loadCfg_none, h]

/-- non-vacuity: a valid environment in which track writes -/
example : plan ⟨true, true, true, true, true, false, true, false, false, true, true, true, true, true, true, true, false⟩ .track
    = .ok [.generated, .source, .mainEntry] := by simp [plan, preRun, loadCfg]

/-! The same structure, read off the source: `vh skeleton` translates /repo's Go source into `Skeleton.bodies` on
every run. The theorems below are evaluated on that regenerated value, so they are re-proved against what the code
says now. Branches are flattened and loops doubled: "may run after" is over-approximated. -/
section skeleton
open GoatSpec.SkelSpec

/-- the summary table the analyses read is a fixed point of the transfer function over the
    current skeleton (checked in the kernel, one round over every function body) -/
theorem skeleton_table_fixed : isFixedPoint = true := by decide +kernel

/-- **the table is sound**: it lies above every Kleene iterate of the transfer function from the
    empty table, whose limit is what the analyses mean, so every "at most" fact read off it (the
    theorems below, and those of C15 / C06 / C10 / Pools) holds of that limit too
    (`Proofs/Skel.table_sound`, from `iter_le_fixed`). -/
theorem skeleton_table_sound : ∀ n, TblLe (iter n bottom) table :=
  table_sound skeleton_table_fixed (by decide +kernel)

/-- **the hooks see every write**: every file-system mutation in the project's non-test source
    (os.WriteFile/Create/OpenFile/Remove/RemoveAll/Rename/Mkdir*/…, io/ioutil, os/exec,
    go-git work-tree operations: the list of what counts lives in the translator,
    harness/cmd/vh/skeleton.go; `Skeleton.prims` holds those it found) is preceded in its
    function body by `verifhook.Boundary`, with
    nothing but effect-free project calls and uses of package-level variables between — so the
    write log and the tree hashes of `e2e refusals`, and the crash points of `e2e crash`, miss
    none. "Preceded" is in source order over the flattened body: a hook inside a branch arm also
    counts for a mutation behind the branch. -/
theorem every_mutation_hooked : unhooked = [] := by decide +kernel

/-- the functions that mutate the file system themselves (everything else writes through them) -/
theorem writer_functions : writers =
    [("pkg/config.InitWithConfig", ["os.Create"]),
     ("pkg/goat.CleanExecutor.clean", ["os.Remove", "os.RemoveAll"]),
     ("pkg/goat.PatchExecutor.apply", ["os.RemoveAll"]),
     ("pkg/maininfo.MainPackageInfo.ApplyMainEntry", ["os.WriteFile", "os.WriteFile"]),
     ("pkg/tracking/increment.Values.Remove", ["os.Remove"]),
     ("pkg/tracking/increment.Values.Save", ["os.MkdirAll", "os.WriteFile"]),
     ("pkg/utils.FormatAndSave", ["os.WriteFile"])] := by decide +kernel

/-- **`goat track`: what can still fail once the first file has been written.** Exactly the
    re-parse / re-print / stat of content the command itself produced (FormatAndSave,
    ApplyMainEntry, AddImport): every precondition, the diff, the parse of every changed file,
    the numbering, the validation and rendering of the generated file come before the first
    mutation. A new fallible step behind a write (a check moved or added too late) lands in this
    list and breaks the theorem. -/
theorem track_late_failures : late "cmd/goat.trackCmd" =
    [("pkg/maininfo.MainPackageInfo.ApplyMainEntry", "go/parser.ParseFile"),
     ("pkg/maininfo.MainPackageInfo.ApplyMainEntry", "os.ReadFile"),
     ("pkg/maininfo.MainPackageInfo.ApplyMainEntry", "os.Stat"),
     ("pkg/utils.AddCodes", "go/printer.Config.Fprint"),
     ("pkg/utils.AddImport", "fmt.Errorf (new error)"),
     ("pkg/utils.FormatAndSave", "os.Stat"),
     ("pkg/utils.FormatAst", "go/printer.Config.Fprint"),
     ("pkg/utils.GetAstTree", "go/parser.ParseFile")] := by decide +kernel

/-- `goat patch`: in addition the generated file is validated and rendered after the sources were
    saved, and the emptied package directory is listed -/
theorem patch_late_failures : late "cmd/goat.patchCmd" =
    [("pkg/config.GetDataType", "fmt.Errorf (new error)"),
     ("pkg/maininfo.MainPackageInfo.ApplyMainEntry", "go/parser.ParseFile"),
     ("pkg/maininfo.MainPackageInfo.ApplyMainEntry", "os.ReadFile"),
     ("pkg/maininfo.MainPackageInfo.ApplyMainEntry", "os.Stat"),
     ("pkg/tracking/increment.Values.Render", "text/template.Template.Parse"),
     ("pkg/tracking/increment.Values.Render", "text/template.Template.Execute"),
     ("pkg/tracking/increment.Values.Validate", "fmt.Errorf (new error)"),
     ("pkg/utils.AddCodes", "go/printer.Config.Fprint"),
     ("pkg/utils.AddImport", "fmt.Errorf (new error)"),
     ("pkg/utils.FormatAndSave", "os.Stat"),
     ("pkg/utils.FormatAst", "go/printer.Config.Fprint"),
     ("pkg/utils.GetAstTree", "go/parser.ParseFile"),
     ("pkg/utils.IsDirEmpty", "os.Open"),
     ("pkg/utils.IsDirEmpty", "os.File.Readdirnames")] := by decide +kernel

/-- `goat clean`: of the steps above, those around the saving of a source (parse, print, stat) and the listing of
    the emptied package directory -/
theorem clean_late_failures : late "cmd/goat.cleanCmd" =
    [("pkg/utils.FormatAndSave", "os.Stat"),
     ("pkg/utils.FormatAst", "go/printer.Config.Fprint"),
     ("pkg/utils.GetAstTree", "go/parser.ParseFile"),
     ("pkg/utils.IsDirEmpty", "os.Open"),
     ("pkg/utils.IsDirEmpty", "os.File.Readdirnames")] := by decide +kernel

/-- `goat init`: the flag record is validated and the template parsed before the file is created -/
theorem init_late_failures : late "cmd/goat.initCmd" =
    [("pkg/config.InitWithConfig", "text/template.Template.Execute")] := by decide +kernel

/-- the four commands are the functions of these names, and each of them can mutate the tree
    (non-vacuity of the four theorems above) -/
example : (["cmd/goat.trackCmd", "cmd/goat.patchCmd", "cmd/goat.cleanCmd", "cmd/goat.initCmd"].all
    (fun c => known c && mutates c)) = true := by decide +kernel

end skeleton

end GoatSpec.C12
