import GoatSpec.NonInterf
import GoatSpec.Properties.C07
/-! # C14 — the instrumented program behaves like the original  (**partial**)

Model: `GoatSpec/NonInterf.lean` (abstract step semantics; read its header for what is and what
is not modelled). All theorems are over **all** programs (any state space, nondeterministic,
any number of goroutines inside the state), **all** traces and **all** placements of tracking
calls, by induction over traces.

Proved: deleting the tracking steps of an execution of the instrumented build gives an execution of
the original program with the same output and final user state, and conversely; a tracking step and
a user step commute; an id is reported as covered iff a `track id` step occurs (through C07
`status_counts`); the same for an instrumented program with its own control states (`Instr`), from
the frame conditions only.

NOT proved (monitored by e2e `behaviour`): that the Go programs goat reads and writes are such
transition systems — Go's dynamic semantics, scheduling, the service goroutine. -/
namespace GoatSpec.C14
open GoatSpec GoatSpec.Runtime GoatSpec.NonInterf

theorem Trace.append {S L : Type} {step : S → L → S → Prop} {s s₁ s₂ : S} {l₁ l₂ : List L}
    (h₁ : Trace step s l₁ s₁) (h₂ : Trace step s₁ l₂ s₂) : Trace step s (l₁ ++ l₂) s₂ := by
  induction h₁ with
  | nil _ => exact h₂
  | cons hs _ ih => exact .cons hs (ih h₂)

theorem erase_tracks_append {A : Type} (ids : List Int) (r : List (Label A)) :
    erase (ids.map Label.track ++ r) = erase r := by
  induction ids with
  | nil => rfl
  | cons i t ih => exact ih

theorem erase_users {A : Type} : ∀ as : List A, erase (as.map Label.user) = as
  | [] => rfl
  | a :: t => congrArg (a :: ·) (erase_users t)

theorem trackIds_tracks_append {A : Type} (ids : List Int) (r : List (Label A)) :
    trackIds (ids.map Label.track ++ r) = ids ++ trackIds r := by
  induction ids with
  | nil => rfl
  | cons i t ih => exact congrArg (i :: ·) ih

/-- **erase_track.** Every execution of the instrumented build projects, by deleting its
    tracking steps, to an execution of the original program between the same user states; it
    prints the same output; and the coverage component at the end is the runtime's `run` of the
    tracking calls in execution order — nothing else ever touches it. -/
theorem erase_track {U A O : Type} (P : Prog U A O) (m : Mode) {s s' : U × Status} {ls : List (Label A)}
    (h : Trace (OStep P m) s ls s') :
    Trace P.step s.1 (erase ls) s'.1
    ∧ outputsI P ls = outputs P (erase ls)
    ∧ s'.2 = run m s.2 (trackIds ls) := by
  induction h with
  | nil s => exact ⟨.nil _, rfl, rfl⟩
  | cons hs _ ih =>
    cases hs with
    | user c hu =>
      obtain ⟨ih1, ih2, ih3⟩ := ih
      exact ⟨.cons hu ih1, congrArg (P.out _ ++ ·) ih2, ih3⟩
    | track u c id => exact ih

/-- **lift_track (converse).** Every execution of the original program, decorated with tracking
    steps at arbitrary positions (`ls` is any label sequence whose erasure is the original
    action sequence), is an execution of the instrumented build from any coverage state, ending
    in the same user state. -/
theorem lift_track {U A O : Type} (P : Prog U A O) (m : Mode) :
    ∀ (ls : List (Label A)) {u u' : U}, Trace P.step u (erase ls) u' → ∀ c : Status,
      Trace (OStep P m) (u, c) ls (u', run m c (trackIds ls))
  | [], _, _, .nil _, _ => .nil _
  | .user _ :: r, _, _, .cons hs ht, c => .cons (.user c hs) (lift_track P m r ht c)
  | .track id :: r, u, _, h, c => .cons (.track u c id) (lift_track P m r h (track m c id))

/-- both directions as one statement about outputs: the instrumented build can print `o` and stop
    in user state `u'` iff the original program can -/
theorem same_behaviours {U A O : Type} (P : Prog U A O) (m : Mode) (u u' : U) (c : Status) (o : List O) :
    (∃ ls c', Trace (OStep P m) (u, c) ls (u', c') ∧ outputsI P ls = o)
      ↔ (∃ as, Trace P.step u as u' ∧ outputs P as = o) := by
  constructor
  · rintro ⟨ls, c', h, ho⟩
    obtain ⟨ht, hout, _⟩ := erase_track P m h
    exact ⟨erase ls, ht, hout ▸ ho⟩
  · rintro ⟨as, h, ho⟩
    have hl := lift_track P m (as.map Label.user) ((erase_users as).symm ▸ h) c
    exact ⟨_, _, hl, by rw [(erase_track P m hl).2.1, erase_users, ho]⟩

/-- **track_commutes.** A tracking call and a user step commute: executing them in either order
    relates the same pairs of states of `UserState × Coverage`. -/
theorem track_commutes {U A O : Type} (P : Prog U A O) (m : Mode) (a : A) (id : Int) (s s' : U × Status) :
    (∃ mid, TrackEff m id s mid ∧ UserEff P a mid s') ↔ (∃ mid, UserEff P a s mid ∧ TrackEff m id mid s') := by
  constructor
  · rintro ⟨mid, ⟨h1, h2⟩, ⟨h3, h4⟩⟩
    exact ⟨(s'.1, s.2), ⟨h1 ▸ h3, rfl⟩, ⟨rfl, h4.trans h2⟩⟩
  · rintro ⟨mid, ⟨h1, h2⟩, ⟨h3, h4⟩⟩
    exact ⟨(s.1, track m s.2 id), ⟨rfl, rfl⟩, ⟨h3 ▸ h1, h2 ▸ h4⟩⟩

/-- executions over label sequences with the same user actions and the same tracking calls
    connect the same states -/
theorem trace_congr {U A O : Type} (P : Prog U A O) (m : Mode) {s s' : U × Status} {ls ls' : List (Label A)}
    (h : Trace (OStep P m) s ls s') (he : erase ls' = erase ls) (ht : trackIds ls' = trackIds ls) :
    Trace (OStep P m) s ls' s' := by
  obtain ⟨h1, _, h3⟩ := erase_track P m h
  have := lift_track P m ls' (he ▸ h1) s.2
  rwa [ht, ← h3] at this

/-- the same on executions: two adjacent steps `track id`, `user a` can be swapped -/
theorem swap_adjacent {U A O : Type} (P : Prog U A O) (m : Mode) (a : A) (id : Int) (s s' : U × Status) :
    Trace (OStep P m) s [.track id, .user a] s' ↔ Trace (OStep P m) s [.user a, .track id] s' :=
  ⟨fun h => trace_congr P m h rfl rfl, fun h => trace_congr P m h rfl rfl⟩

/-- **covered_exact.** After any execution of the instrumented build from a fresh runtime with
    ids `1..n`: in bool mode `status id > 0` iff a `track id` step occurs in the execution; in
    count mode the slot holds the exact number of such steps (below 2^32) and is positive iff
    one occurs; slots outside `1..n` stay 0. -/
theorem covered_exact {U A O : Type} (P : Prog U A O) (m : Mode) (n : Nat) {u u' : U} {c' : Status}
    {ls : List (Label A)} (h : Trace (OStep P m) (u, initStatus n) ls (u', c')) (id : Nat) :
    (1 ≤ id ∧ id ≤ n → m = .bool → (get c' id > 0 ↔ (id : Int) ∈ trackIds ls))
    ∧ (1 ≤ id ∧ id ≤ n → m = .count → occ id (trackIds ls) < W →
        get c' id = occ id (trackIds ls) ∧ (get c' id > 0 ↔ (id : Int) ∈ trackIds ls))
    ∧ (¬(1 ≤ id ∧ id ≤ n) → get c' id = 0) := by
  obtain rfl : c' = run m (initStatus n) (trackIds ls) := (erase_track P m h).2.2
  obtain ⟨h1, h2, h3, _⟩ := C07.status_counts m n (trackIds ls) id
  have hocc : occ id (trackIds ls) > 0 ↔ (id : Int) ∈ trackIds ls := List.count_pos_iff
  refine ⟨fun hr hm => ?_, fun hr hm hlt => ?_, h3⟩
  · subst hm
    rw [h1 hr, ← hocc]
    exact Nat.lt_min.trans (and_iff_right Nat.one_pos)
  · rw [h2 hr hm hlt]
    exact ⟨rfl, hocc⟩

theorem instr_projects {U A O V : Type} {P : Prog U A O} (I : Instr P V) (m : Mode)
    {s s' : V × Status} {ls : List (Label A)} (h : Trace (IStep I m) s ls s') :
    Trace (OStep P m) (I.π s.1, s.2) ls (I.π s'.1, s'.2) := by
  induction h with
  | nil s => exact .nil _
  | cons hs _ ih =>
    cases hs with
    | user c hu => exact .cons (.user c (I.user_sim hu)) ih
    | track c ht => exact .cons (I.track_stutter ht ▸ .track _ c _) ih

/-- **erase_track for an instrumented program**: its executions project to executions of the
    original program with the same output, the same final user state, and a coverage record
    that is exactly `run` of the executed tracking calls -/
theorem instr_erase_track {U A O V : Type} {P : Prog U A O} (I : Instr P V) (m : Mode)
    {s s' : V × Status} {ls : List (Label A)} (h : Trace (IStep I m) s ls s') :
    Trace P.step (I.π s.1) (erase ls) (I.π s'.1)
    ∧ outputsI P ls = outputs P (erase ls)
    ∧ s'.2 = run m s.2 (trackIds ls) :=
  erase_track P m (instr_projects I m h)

theorem tsteps_lift {U A O V : Type} {P : Prog U A O} (I : Instr P V) (m : Mode) {v v₁ : V} {ids : List Int}
    (h : Trace I.tstep v ids v₁) : ∀ c : Status,
    Trace (IStep I m) (v, c) (ids.map Label.track) (v₁, run m c ids) := by
  induction h with
  | nil v => exact fun c => .nil _
  | cons hs _ ih => exact fun c => .cons (.track c hs) (ih _)

/-- **lift_track for an instrumented program**: every execution of the original program from
    `π v` is the erasure of an execution of the instrumented program from `v` (it only has to run
    the tracking calls it meets on the way), reaching the same user state -/
theorem instr_lift_track {U A O V : Type} {P : Prog U A O} (I : Instr P V) (m : Mode) {u u' : U} {as : List A}
    (h : Trace P.step u as u') : ∀ v : V, I.π v = u →
    ∃ (ls : List (Label A)) (v' : V), erase ls = as ∧ I.π v' = u' ∧
      ∀ c : Status, Trace (IStep I m) (v, c) ls (v', run m c (trackIds ls)) := by
  induction h with
  | nil u => intro v hv; exact ⟨[], v, rfl, hv, fun c => .nil _⟩
  | @cons _ _ _ a _ hs _ ih =>
    intro v hv
    subst hv
    obtain ⟨ids, v₁, v₂, ht, hu, hp⟩ := I.lift hs
    obtain ⟨ls, v', he, hpv, htr⟩ := ih v₂ hp
    refine ⟨ids.map Label.track ++ (.user a :: ls), v', ?_, hpv, ?_⟩
    · rw [erase_tracks_append, erase, he]
    · intro c
      rw [trackIds_tracks_append, run_append]
      exact Trace.append (tsteps_lift I m ht c) (.cons (.user _ hu) (htr _))

end GoatSpec.C14
