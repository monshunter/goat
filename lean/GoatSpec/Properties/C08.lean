import GoatSpec.Proofs.Sched
import GoatSpec.Properties.Pools
/-! # C08 — results do not depend on thread count, schedule or repetition  (**partial**)

Model: `GoatSpec/Sched.lean` — the worker-pool skeletons of `pkg/goat/{track,patch,clean}.go` and
`pkg/diff/diff_v{1,2,3}.go`. The theorems below are about the tool's *aggregation logic*: given
that every task is a function of its input alone and that each step of the skeleton is executed
atomically, the aggregate does not depend on the completion order. They quantify over **all** task
lists, **all** completion orders / permutations / interleavings; nothing is bounded.

What no theorem here shows (monitored by the end-to-end oracle `threads`, labelled
`assumption_monitor` in the evidence): that the Go implementation *is* such a skeleton — absence
of data races under the Go memory model, go-git's internal mutable state (pack index maps), the
file system. `changed_lost_update` is the model-level witness of the defect D-C08-1 of the pinned
tree (the flag was updated by a non-atomic read-modify-write). -/
namespace GoatSpec.C08
open GoatSpec GoatSpec.Sched

/-! results written by index (`trackers[i]`, `fileChanges[idx]`) -/

/-- **pool_by_index.** For every task function, task list and completion order in which every
    task completes (any permutation of the task indices — any number of workers, any schedule),
    the result array is `f` applied to the tasks, slot by slot. -/
theorem pool_by_index {α β : Type} (f : α → β) (tasks : List α) (order : List Nat)
    (h : order.Perm (List.range tasks.length)) :
    poolRun f tasks order = tasks.map (fun t => some (f t)) := by
  apply List.ext_getElem?
  intro j
  by_cases hj : j < tasks.length
  · rw [poolRun, foldl_complete_get f tasks order _ j hj List.length_replicate,
      if_pos (h.mem_iff.mpr (List.mem_range.mpr hj)), List.getElem?_map, List.getElem?_eq_getElem hj]
    rfl
  · have hj := Nat.le_of_not_lt hj
    rw [List.getElem?_eq_none, List.getElem?_eq_none]
    · rwa [List.length_map]
    · rwa [poolRun, foldl_complete_length, List.length_replicate]

/-- hence the same array for any two completion orders (threads = 1 is the order `0,1,…,n-1`) -/
theorem pool_order_irrelevant {α β : Type} (f : α → β) (tasks : List α) (o₁ o₂ : List Nat)
    (h₁ : o₁.Perm (List.range tasks.length)) (h₂ : o₂.Perm (List.range tasks.length)) :
    poolRun f tasks o₁ = poolRun f tasks o₂ := by
  rw [pool_by_index f tasks o₁ h₁, pool_by_index f tasks o₂ h₂]

/-- the sequential loop is one of these orders -/
theorem pool_sequential {α β : Type} (f : α → β) (tasks : List α) :
    poolRun f tasks (List.range tasks.length) = tasks.map (fun t => some (f t)) :=
  pool_by_index f tasks _ (List.Perm.refl _)

/-- `filterValidFileChanges` returns exactly the non-nil entries, as a multiset … -/
theorem filterValid_perm_valid {α : Type} (l : List (Option α)) : (filterValid l).Perm (l.filterMap id) := by
  fun_induction filterValid l with
  | case1 => exact .refl _
  | case2 x r ih => simpa using ih
  | case3 r h =>
    obtain rfl : r = [] := by simpa using h
    exact .refl _
  | case4 r last h ih =>
    obtain ⟨ys, rfl⟩ := List.getLast?_eq_some_iff.mp h
    rw [List.dropLast_concat] at ih ⊢
    -- left: `(last :: ys).filterMap id` against `(none :: (ys ++ [last])).filterMap id`, where the `none` counts for
    -- nothing and `last` has moved from the end to the front
    refine ih.trans ?_
    simpa using (List.perm_append_singleton last ys).symm.filterMap id

/-- … but not in their original order (so the later sort by path is load-bearing) -/
theorem filterValid_reorders : filterValid [none, some 1, some 2] = [2, 1] :=
  (filterValid_none_concat [some 1] (some 2)).trans (by simp [filterValid_some, filterValid_nil])

/-- **any** sorting algorithm (`sort.Slice` is unspecified and unstable) yields the same list:
    a permutation of `l` that is sorted by path equals `sortByPath l` when the paths of `l` are
    pairwise distinct (one change per file) -/
theorem sorted_perm_unique {β : Type} (l s : List (String × β)) (nd : (l.map (·.1)).Nodup)
    (hp : s.Perm l) (hs : SortedByPath s) : s = sortByPath l :=
  eq_of_perm_of_sorted nd hp (sortByPath_perm l) hs (sortByPath_sorted l)

/-- the sorted list is the same for every permutation of the diff stage's output -/
theorem sort_perm {β : Type} (l₁ l₂ : List (String × β)) (nd : (l₁.map (·.1)).Nodup) (p : l₁.Perm l₂) :
    sortByPath l₁ = sortByPath l₂ :=
  (sorted_perm_unique l₁ _ nd ((sortByPath_perm l₂).trans p.symm) (sortByPath_sorted l₂)).symm

/-- **numbering_perm.** The id plan (`GoatSpec.number` from 1 over the files in sorted-path order
    with their tracking-point counts) is invariant under any permutation of the diff stage's
    output, for every count function, provided there is one change per path. -/
theorem numbering_perm {β : Type} (count : String × β → Nat) (l₁ l₂ : List (String × β))
    (nd : (l₁.map (·.1)).Nodup) (p : l₁.Perm l₂) :
    plan count l₁ = plan count l₂ := by
  simp only [plan, sort_perm l₁ l₂ nd p]

/-- the whole first half of `track`: diff workers write by index in any completion order, the
    valid entries are filtered (reordering them), sorted by path and numbered — the plan equals
    the plan computed from the results in task order -/
theorem plan_schedule_independent {α β : Type} (f : α → Option (String × β)) (count : String × β → Nat)
    (tasks : List α) (order : List Nat) (h : order.Perm (List.range tasks.length))
    (nd : ((tasks.filterMap f).map (·.1)).Nodup) :
    plan count (filterValid ((poolRun f tasks order).map (fun o => o.bind id)))
      = plan count (tasks.filterMap f) := by
  have hp : (filterValid ((poolRun f tasks order).map (fun o => o.bind id))).Perm (tasks.filterMap f) := by
    rw [pool_by_index f tasks order h, List.map_map]
    -- the composed function is `f`: `(some (f t)).bind id` evaluates to `f t`
    exact (filterValid_perm_valid _).trans (.of_eq List.filterMap_map)
  exact (numbering_perm count _ _ nd hp.symm).symm

/-! results collected from a channel and written as whole files -/

/-- **collect_perm.** Whole-file writes with pairwise distinct paths commute: for every tree and
    every permutation of the collected results the final tree is the same. -/
theorem collect_perm (t : Tree) (ws₁ ws₂ : List (String × String)) (nd : (ws₁.map (·.1)).Nodup)
    (p : ws₁.Perm ws₂) : applyWrites t ws₁ = applyWrites t ws₂ := by
  funext q
  have nd2 : (ws₂.map (·.1)).Nodup := ((p.map (·.1)).nodup_iff).mp nd
  by_cases hq : q ∈ ws₁.map (·.1)
  · obtain ⟨⟨_, c⟩, hw, rfl⟩ := List.mem_map.mp hq
    rw [applyWrites_mem _ c ws₁ t nd hw, applyWrites_mem _ c ws₂ t nd2 (p.mem_iff.mp hw)]
  · have hq2 : q ∉ ws₂.map (·.1) := fun h => hq ((p.map (·.1)).mem_iff.mpr h)
    rw [applyWrites_not_mem q ws₁ t hq, applyWrites_not_mem q ws₂ t hq2]

/-- the final tree: a written path holds its (unique) new content, every other path is untouched -/
theorem collect_final (t : Tree) (ws : List (String × String)) (nd : (ws.map (·.1)).Nodup) (q : String) :
    (∀ c, (q, c) ∈ ws → applyWrites t ws q = some c) ∧ (q ∉ ws.map (·.1) → applyWrites t ws q = t q) :=
  ⟨fun c h => applyWrites_mem q c ws t nd h, applyWrites_not_mem q ws t⟩

/-- **or_reduce_atomic.** If every update of the flag is one atomic OR-step (an `atomic.Bool` that
    is only ever set, or an OR performed by the single collecting goroutine), then for any number
    of workers with any number of steps each and **any interleaving** the final value is the
    disjunction of the initial value and all contributions. -/
theorem or_reduce_atomic (init : Bool) {ls : List (List Bool)} {s : List Bool} (h : Interleave ls s) :
    orRun init s = (init || ls.flatten.any id) := by
  rw [orRun_eq, h.perm.any_eq]

/-- in particular all interleavings agree with the sequential execution of the workers one after
    the other -/
theorem or_reduce_schedule_independent (init : Bool) {ls : List (List Bool)} {s₁ s₂ : List Bool}
    (h₁ : Interleave ls s₁) (h₂ : Interleave ls s₂) : orRun init s₁ = orRun init s₂ := by
  rw [or_reduce_atomic init h₁, or_reduce_atomic init h₂]

/-- **changed_lost_update (witness of D-C08-1).** With the pinned statement
    `p.changed = p.changed || updated`, executed as a read followed by a write by two workers of
    which the first found a marker (`updated = true`), the schedule `0,1,0,1` (both read `false`,
    worker 0 writes `true`, worker 1 writes its stale `false || false`) terminates with
    `changed = false`: `goat patch` reports "no +goat:delete, +goat:insert found" and applies
    nothing. -/
theorem changed_lost_update :
    ∃ sched : List Nat,
      let fin := rmwRun ⟨false, [rmwWorker true, rmwWorker false]⟩ sched
      rmwDone fin = true ∧ fin.changed = false := ⟨[0, 1, 0, 1], by decide⟩

/-- the same two workers one after the other (threads = 1) end with `changed = true` -/
theorem changed_sequential :
    (rmwRun ⟨false, [rmwWorker true, rmwWorker false]⟩ [0, 0, 1, 1]).changed = true := by decide

/-- … so under the non-atomic update the outcome depends on the schedule -/
theorem rmw_schedule_dependent :
    ∃ s₁ s₂ : List Nat,
      rmwDone (rmwRun ⟨false, [rmwWorker true, rmwWorker false]⟩ s₁) = true ∧
      rmwDone (rmwRun ⟨false, [rmwWorker true, rmwWorker false]⟩ s₂) = true ∧
      (rmwRun ⟨false, [rmwWorker true, rmwWorker false]⟩ s₁).changed ≠
        (rmwRun ⟨false, [rmwWorker true, rmwWorker false]⟩ s₂).changed :=
  ⟨[0, 1, 0, 1], [0, 0, 1, 1], by decide⟩

/-! The theorems above assume that each per-file task is a function of its input alone. One way to
break that is package-level state touched from the pools. `spawnRefs f` is the set of package-level
variables of the project that the goroutines started in `f`, or anything they (transitively) call,
mention. -/
section skeleton
open GoatSpec.SkelSpec

def regexps : List String :=
  ["pkg/config.TrackDeleteEndRegexp", "pkg/config.TrackInsertRegexp", "pkg/config.TrackGenerateEndRegexp",
   "pkg/config.TrackMainEntryEndRegexp", "pkg/config.TrackUserEndRegexp"]

/-- the functions that start goroutines: three diff stages (INIT is sequential) and the six pools of the commands -/
theorem pool_functions : spawners =
    ["pkg/diff.DifferV1.AnalyzeChanges", "pkg/diff.DifferV2.AnalyzeChanges",
     "pkg/diff.DifferV3.AnalyzeChanges", "pkg/goat.CleanExecutor.cleanContentsParallel",
     "pkg/goat.CleanExecutor.prepareContentsParallel", "pkg/goat.PatchExecutor.applyTracksParallel",
     "pkg/goat.PatchExecutor.prepareContentsParallel", "pkg/goat.TrackExecutor.initTracksParallel",
     "pkg/goat.TrackExecutor.saveTracksParallel"] := Pools.pool_functions

/-- **the goroutines touch no package-level variable except the five compiled regular
    expressions and the default printer configuration**; the diff workers touch none at all.
    A `.ref` is any use, read or write: that these six are only read once the package is
    initialised (and `*regexp.Regexp` is safe for concurrent use) is seen by inspection of the
    source, not shown by this theorem. -/
theorem pools_share_no_package_state :
    spawners.all (fun f => (spawnRefs f).all (fun v => regexps.contains v || v == "pkg/utils.defaultPrinterConfig")) = true
    ∧ (spawners.filter (fun f => spawnRefs f ≠ [])) =
      ["pkg/goat.CleanExecutor.cleanContentsParallel", "pkg/goat.CleanExecutor.prepareContentsParallel",
       "pkg/goat.PatchExecutor.applyTracksParallel", "pkg/goat.PatchExecutor.prepareContentsParallel",
       "pkg/goat.TrackExecutor.initTracksParallel", "pkg/goat.TrackExecutor.saveTracksParallel"] :=
  Pools.pools_share_no_package_state

end skeleton

end GoatSpec.C08
