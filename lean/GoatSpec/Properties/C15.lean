import GoatSpec.Proofs.Cmd
import GoatSpec.Properties.C06
import GoatSpec.Properties.C12
/-! # C15 — an interrupted track, patch or clean is fully recoverable with goat clean.

Crash granularity is whole-file writes (assumption A8). After `k` writes every file holds
either its old or its new content; both are well-formed arrangements around the same user
text, so `goat clean` leaves no artefact and the user's text — for every command, every `k`,
every number of files. -/
namespace GoatSpec.C15
open GoatSpec

def afterOf (before : List FileSt) (ops : List FileOp) : List FileSt :=
  (before.zip ops).map (fun p => fileStep p.1 p.2)

/-- **C15.** For every list of well-formed files, every list of file operations (any of
    `FileOp`, `.userEdit` included, though the commands write only track / patch / clean), each
    admissible for the file it is zipped with, and every crash point `k`: each file of the
    interrupted state is still a well-formed arrangement around the user's text, and cleaning it
    leaves only user items carrying exactly that text. Nothing requires `ops.length =
    before.length`: with fewer operations than files `afterOf` is shorter than `before`, and for
    `k` beyond its length `crashState` leaves out the files in between; the statement is about
    the members of the list as it is. -/
theorem crash_recoverable (before : List FileSt) (ops : List FileOp)
    (hok : ∀ f ∈ before, f.ok)
    (hadm : ∀ p ∈ before.zip ops, p.2.admissible p.1) (k : Nat) :
    ∀ g ∈ crashState before (afterOf before ops) k,
      g.ok ∧ (∀ it ∈ (cleanFile g).items, it.kind = none)
        ∧ nonBlank (flatten (cleanFile g).items) = nonBlank g.text := by
  intro g hg
  have hgok : g.ok := by
    rcases crashState_mem hg with h | h
    · exact hok g h
    · obtain ⟨p, hp, rfl⟩ := List.mem_map.mp h
      exact fileStep_ok p.1 p.2 (hok p.1 (List.of_mem_zip hp).1) (hadm p hp)
  exact ⟨hgok, cleanFile_restores g hgok⟩

/-- `clean` tolerates an already clean file -/
theorem clean_tolerates (f : FileSt) : cleanFile (cleanFile f) = cleanFile f := by
  cases f; simp [cleanFile, userItems_idem]

/-- link to the text level: on the flattened arrangement the five regexp passes compute
    `cleanFile` up to blank lines (this is `C06.clean_wf`) -/
theorem clean_text_realises (f : FileSt) (hf : f.ok) :
    nonBlank (cleanLines (flatten f.items)).2 = nonBlank (flatten (cleanFile f).items) :=
  (C06.clean_wf f.items hf.1).1

/-- non-vacuity: two files, track on the first, crash after the first write -/
example :
    let f1 : FileSt := ⟨[.user ['a'], .user ['b']], [['a'], ['b']]⟩
    let f2 : FileSt := ⟨[.user ['c']], [['c']]⟩
    (crashState [f1, f2] (afterOf [f1, f2] [.track [0], .track [0]]) 1).map (fun g => g.items.length) = [3, 1] := by
  decide

/-! Crash points, read off the source (`vh skeleton`, regenerated on every run). -/
section skeleton
open GoatSpec.SkelSpec

/-- **the crash points of `e2e crash` are all the points there are**: every file-system mutation
    of the project is directly preceded by the hook at which the harness kills the process, so
    enumerating the hook's boundaries enumerates every whole-file crash state -/
theorem every_mutation_is_a_crash_point : unhooked = [] ∧ isFixedPoint = true :=
  ⟨C12.every_mutation_hooked, C12.skeleton_table_fixed⟩

/-- the mutations happen in these seven functions only -/
theorem mutating_functions : writers.map (·.1) =
    ["pkg/config.InitWithConfig", "pkg/goat.CleanExecutor.clean", "pkg/goat.PatchExecutor.apply",
     "pkg/maininfo.MainPackageInfo.ApplyMainEntry", "pkg/tracking/increment.Values.Remove",
     "pkg/tracking/increment.Values.Save", "pkg/utils.FormatAndSave"] :=
  congrArg (List.map (·.1)) C12.writer_functions

/-- `clean` rewrites the sources first and removes the generated file and the package directory
    afterwards, so an interrupted clean leaves a tree a second clean still recognises -/
theorem clean_order_in_source :
    callOrder "pkg/goat.CleanExecutor.Run" = ["pkg/goat.CleanExecutor.prepare", "pkg/goat.CleanExecutor.clean"]
    ∧ (callOrder "pkg/goat.CleanExecutor.clean").filter (fun f => f ≠ "pkg/config.Config.GoatGeneratedFile") =
      ["pkg/goat.CleanExecutor.cleanContentsSequential", "pkg/goat.CleanExecutor.cleanContentsParallel", "pkg/utils.IsDirEmpty"]
    ∧ mutates "pkg/goat.CleanExecutor.prepare" = false := by
  decide +kernel

end skeleton

end GoatSpec.C15
