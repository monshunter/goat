import GoatSpec.Proofs.Cmd
/-! # C11 — any sequence of track / patch / clean / edits keeps the project consistent.

Two layers, both by induction over operation lists of **any length**:
* the item-level project state: every file stays a well-formed arrangement around the user's
  current text (never loses user code), cleaning leaves no artefact and exactly that text, and
  track is a function of the file and the diff only, so track after clean reproduces the first
  instrumentation;
* the abstract machine Clean / Instrumented(N) (`Abs`: the numbers of tracking points in the work
  tree and in HEAD; uncommitted changes are an input of `Op.track`, not a state) that labels the
  end-to-end operation sequences (`e2e sequences` compares exit status class and N with it after
  every step).
"Compiles" and the C05 tables after every step are end-to-end oracles. -/
namespace GoatSpec.C11
open GoatSpec

def runOps (f : FileSt) : List FileOp → FileSt
  | [] => f
  | op :: ops => runOps (fileStep f op) ops

def Admissible : FileSt → List FileOp → Prop
  | _, [] => True
  | f, op :: ops => op.admissible f ∧ Admissible (fileStep f op) ops

/-- **invariant preserved by every operation** -/
theorem inv_step (f : FileSt) (op : FileOp) (hf : f.ok) (ha : op.admissible f) : (fileStep f op).ok :=
  fileStep_ok f op hf ha

/-- **every reachable state satisfies the invariant**: the file is a well-formed arrangement
    whose non-blank user lines are the user's current text -/
theorem inv_reachable (f : FileSt) (ops : List FileOp) (hf : f.ok) (ha : Admissible f ops) : (runOps f ops).ok := by
  induction ops generalizing f with
  | nil => exact hf
  | cons op rest ih => exact ih (fileStep f op) (inv_step f op hf ha.1) ha.2

/-- **never loses user code, contains no artefact whenever clean**: after any admissible
    sequence, `goat clean` leaves only user items carrying exactly the user's current text -/
theorem clean_after_any_sequence (f : FileSt) (ops : List FileOp) (hf : f.ok) (ha : Admissible f ops) :
    let g := runOps f ops
    (∀ it ∈ (cleanFile g).items, it.kind = none)
    ∧ nonBlank (flatten (cleanFile g).items) = nonBlank g.text :=
  cleanFile_restores _ (inv_reachable f ops hf ha)

/-- **track after clean reproduces the first instrumentation**: on a file without artefacts,
    cleaning the tracked file gives the file back, so a second track with the same diff
    (same insert positions) produces the identical arrangement -/
theorem track_clean_track (f : FileSt) (idxs : List Nat) (hu : ∀ it ∈ f.items, it.kind = none) :
    trackFile (cleanFile (trackFile f idxs)) idxs = trackFile f idxs := by
  have : cleanFile (trackFile f idxs) = f := by
    cases f with
    | mk items text =>
      simp only [cleanFile, trackFile, userItems_insertBlocks]
      rw [userItems_eq_self hu]
  rw [this]

/-- **`goat track` on an already instrumented tree is refused** and changes nothing -/
theorem track_refused_when_instrumented (s : Abs) (p : Nat) (d : Bool) (h : s.instrumented = true) :
    absStep s (.track p d) = (s, .refused) := by
  simp only [Abs.instrumented, decide_eq_true_eq] at h
  simp [absStep, h]

/-- track is refused exactly when the tree is instrumented or dirty -/
theorem track_refused_iff (s : Abs) (p : Nat) (d : Bool) :
    (absStep s (.track p d)).2 = .refused ↔ (s.n > 0 ∨ d = true) := by
  simp only [absStep]
  by_cases h1 : s.n > 0
  · simp [h1]
  · cases d <;> simp [h1]

/-- clean is never refused and always ends un-instrumented -/
theorem clean_uninstruments (s : Abs) : (absStep s .clean).1.n = 0 ∧ (absStep s .clean).2 = .ok :=
  ⟨rfl, rfl⟩

/-- track → clean → discard → track ends in the state of the first track (abstract form of
    "track after clean plus discarding formatting changes reproduces the first instrumentation") -/
theorem track_clean_discard_track (p : Nat) :
    absRun {} [.track p false, .clean, .discard, .track p false] = absRun {} [.track p false] :=
  rfl

theorem refused_keeps_state (s : Abs) (op : Op) (h : (absStep s op).2 = .refused) : (absStep s op).1 = s := by
  cases op with
  | track p d => rcases (track_refused_iff s p d).mp h with h | h <;> simp [absStep, h]
  | _ => cases h

/-- non-vacuity: an admissible three-step sequence on a concrete file -/
example : Admissible ⟨[.user ['a'], .user ['b']], [['a'], ['b']]⟩ [.track [1], .clean, .track [0, 1]] := by
  refine ⟨trivial, trivial, trivial, trivial⟩

example : (⟨[.user ['a'], .user ['b']], [['a'], ['b']]⟩ : FileSt).ok := by
  refine ⟨by decide, by decide⟩

end GoatSpec.C11
