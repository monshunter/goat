import GoatSpec.Properties.C09
import GoatSpec.Proofs.Splice
import GoatSpec.Proofs.Legal
import GoatSpec.Proofs.ScopeBlks
/-! # C01 — goat track succeeds and the instrumented project still builds.

Lean cannot prove that a Go program compiles (assumption A1, monitored end to end). What is
proved is the part that is goat's own logic: the scope builders are total on body-less
declarations (after the fix of D-C01-1), `count` agrees with the recorded positions for every
event list, the first splice pass writes exactly one block per position, and the second pass
honours at most the given positions — with concrete witnesses of the recorded defect
D-C01-2 (two single-line literals on one line: one block dropped, or a slice-bounds panic).
Legality of every position (a statement boundary of a block of the file, `Layout.legalLine`) is
proved for every abstract file that meets the layout hypothesis `Layout.wfFile` (`marks_legal`,
`marks_legal_func`); on every implementation answer of the streams it is judged by the predicate
`MarkSpec.legalReasons`. -/
namespace GoatSpec.C01
open GoatSpec

/-- body-less declarations no longer make the scope builders fail: for every declaration list
    `funcNodes` returns a result (D-C01-1 fixed; before the fix the first body-less FuncDecl
    was a nil dereference) -/
theorem scopes_total (ds : List Decl) : (funcNodes ds).isSome = true := by
  rw [funcNodes_eq]; rfl

theorem functionScopes_total (f : File) : (functionScopes f).isSome = true := by
  simp only [functionScopes, Option.isSome_map]; exact scopes_total f.decls

/-- `count` = number of recorded positions, for every event list (so `replaceTracks` finds as
    many placeholders as `Count()` reports whenever every recorded position gets its block) -/
theorem count_is_positions (env : Env) (evs : List Ev) (st : MState) (h : runEvents env evs = .ok st) :
    st.count = st.multi.length + st.singles.length :=
  (C09.points_distinct_and_placed env evs st h).2.2.2

/-- first pass: one block per multi-line position inside the file, nothing else changes length -/
theorem pass1_writes_all {α : Type} (block src : List α) (ps : List Nat) (h : Incr 1 ps)
    (hn : ∀ p ∈ ps, p ≤ src.length) :
    (pass1 block 0 src ps).length = src.length + block.length * ps.length :=
  pass1_length_zero block src ps h hn

/-- second pass honours at most the given positions -/
theorem pass2Count_le (i : Nat) (lens : List Nat) (ps : List (Nat × Nat)) (n : Nat)
    (h : pass2Count i lens ps = some n) : n ≤ ps.length := by
  fun_induction pass2Count i lens ps generalizing n with
  | case1 | case2 => cases h; exact Nat.zero_le _
  | case3 _ _ _ _ _ _ ih =>
    obtain ⟨r, hr, rfl⟩ := Option.map_eq_some_iff.mp h
    exact Nat.succ_le_succ (ih r hr)
  | case4 => cases h
  | case5 _ _ _ _ _ _ _ ih => exact ih n h

/-- *witness* (D-C01-2): two single-line literals on one line — only one block is written
    although `count` is 2, so `replaceTracks` reports expected≠actual and track fails -/
theorem two_singles_one_dropped : pass2Count 0 [60] [(1, 14), (1, 40)] = some 1 := by decide

/-- *witness* (D-C01-2): with a multi-line position above, the second position is shifted onto a
    later, shorter line and `src[:column]` panics (slice bounds out of range) -/
theorem two_singles_panic :
    writtenBlocks [17, 60, 20, 12] [10, 60, 3, 0] [1, 3] [(2, 14), (2, 40)] = none := by decide

/-- **where a position comes from** (line, patch and scope granularity, well-formed files): each
    multi-line position is a changed statement line of a block (`lo < hi`) of the file, or the first
    boundary of such a block that is a branch. -/
theorem position_origin (f : File) (hwf : wfFile f = true) (g : Gran) (hg : g ≠ .func)
    (ranges : List (Nat × Nat)) (m : Marks) (h : marks f g ranges = .ok m)
    (env : Env) (henv : mkEnv f g ranges = .ok env) :
    ∀ r ∈ m.multi,
      (∃ b ∈ fileBlks f, BlkFacts f b ∧ r ∈ b.lines ∧ env.isChanged r = .ok true) ∨
      (∃ b ∈ fileBlks f, BlkFacts f b ∧ b.header ≠ [] ∧ r = b.firstBoundary) := by
  intro r hr
  obtain ⟨hgran, st, hst, hm⟩ := marks_run h henv
  replace hr := (hm r).mp hr
  obtain ⟨hcm, hfs⟩ := mkEnv_file f g ranges env henv
  rcases C09.points_justified env _ {} st (Inv.init env) hst r hr with h0 | ⟨l, hl, ht⟩
  · cases h0
  · have hskip := (target_iff (hgran ▸ hg)).mp ht
    rcases hl with ⟨hev, hchg⟩ | hev
    · rcases wf_check hwf hev with ⟨b, hb, hlb, k⟩ | ⟨d, hd, h1⟩
      · cases check_target_eq k hcm hlb hskip
        exact .inl ⟨b, hb, k, hlb, hchg⟩
      · exact absurd (oneLiner_outside hwf hcm hfs hd h1 hskip) ((runEvents_inv hst).inFunc _ hr)
    · obtain ⟨b, hb, rfl, hh, k⟩ := wf_force hwf hev
      exact .inr ⟨b, hb, k, hh, force_target_eq k hcm hskip⟩

/-- **marks_legal — every tracking block is written at a statement boundary.**
    For every abstract file that meets the layout hypothesis `wfFile` (what gofmt-formatted,
    parsed Go looks like: `Layout.lean`), every changed-line set and the granularities line,
    patch and scope: whenever the tracker terminates normally, each multi-line insert position
    `r` is a statement boundary of a block of a function body — `legalLine f r`: some block of
    the file (function body, bare block, if / else / for / range / case / comm body) has
    `lo < r ≤ hi` and `r` is the first line of one of its statements or its closing line.
    Hence the block lands between two statements, never inside an expression, a header or a
    comment (positions are never comment-like: `C09.points_distinct_and_placed`). -/
theorem marks_legal (f : File) (hwf : wfFile f = true) (g : Gran) (hg : g ≠ .func)
    (ranges : List (Nat × Nat)) (m : Marks) (h : marks f g ranges = .ok m) :
    ∀ r ∈ m.multi, legalLine f r = true := by
  intro r hr
  obtain ⟨env, _, henv, _, _⟩ := marks_eq f g ranges m h
  rcases position_origin f hwf g hg ranges m h env henv r hr with ⟨b, hb, k, hl, _⟩ | ⟨b, hb, k, _, rfl⟩
  · exact legalLine_of hb (k.line r hl)
  · exact legalLine_of hb k.first

/-- **marks_legal_func — the same at func granularity**: on a well-formed file whose function
    scopes are the brace pairs of its blocks (`scopesOK`), every insert position is a statement
    boundary again (in the proof: the first boundary of the body of the function that encloses the
    line of the passing event). -/
theorem marks_legal_func (f : File) (hwf : wfFileFunc f = true)
    (ranges : List (Nat × Nat)) (m : Marks) (h : marks f .func ranges = .ok m) :
    ∀ r ∈ m.multi, legalLine f r = true := by
  intro r hr
  obtain ⟨env, _, henv, _, _⟩ := marks_eq f .func ranges m h
  obtain ⟨hgran, st, hst, hm⟩ := marks_run h henv
  replace hr := (hm r).mp hr
  obtain ⟨hcm, hfs⟩ := mkEnv_file f .func ranges env henv
  simp only [wfFileFunc, Bool.and_eq_true] at hwf
  have hsc := hwf.2
  simp only [scopesOK, hfs, List.all_eq_true, List.any_eq_true, Bool.and_eq_true, beq_iff_eq] at hsc
  rcases C09.points_justified env _ {} st (Inv.init env) hst r hr with h0 | ⟨l, _, ht⟩
  · cases h0
  · rcases ht with ⟨h1, _⟩ | ⟨_, s, e, hget, hne, hskip⟩
    · exact absurd hgran h1
    · obtain ⟨p, hp, hlo, hhi⟩ := searchScopes_spec env.funcs l hne
      cases hget.symm.trans hp
      -- the scope is not the first one, hence the brace pair of a block
      have hmem : (s, e) ∈ env.funcs.drop 1 := List.mem_of_getElem? (i := searchScopes env.funcs l - 1) <| by
        rw [List.getElem?_drop, Nat.add_sub_cancel' (Nat.pos_of_ne_zero hne), hget]
      obtain ⟨b, hb, (hbl : b.lo = s), (hbh : b.hi = e)⟩ := hsc (s, e) hmem
      subst hbl hbh
      have k := wf_multi hwf.1 hb (.inl (Nat.ne_of_lt (Nat.lt_trans hlo hhi)))
      rw [force_target_eq k hcm hskip]
      exact legalLine_of hb k.first

/-- **marks_legal_func, with the scope hypothesis discharged**: that every function scope is the
    brace pair of a block is not an assumption about the input but a consequence of "the file
    scope sorts first" (`headIsFile`: the package clause precedes every function) —
    `Proofs/ScopeBlks.scopesOK_of_headIsFile`: `BlockScopes.Sort` is a permutation, and every
    function node `FunctionScopesOfAST` collects has its body among the blocks of the file. -/
theorem marks_legal_func' (f : File) (hwf : wfFile f = true) (hh : headIsFile f = true)
    (ranges : List (Nat × Nat)) (m : Marks) (h : marks f .func ranges = .ok m) :
    ∀ r ∈ m.multi, legalLine f r = true :=
  marks_legal_func f (by simp [wfFileFunc, hwf, scopesOK_of_headIsFile f hh]) ranges m h

/-- non-vacuity of `marks_legal`: a well-formed file with an `if` whose header is changed (a
    forced insert that skips a comment line) and a changed statement -/
def legalExample : File :=
  ⟨1, 11, #[0, 1, 0, 0, 2, 0, 0, 0, 0, 0, 1], #[9, 0, 20, 12, 10, 8, 2, 8, 10, 1, 0],
   [.funcDecl (some (3, 10, some (4, 2),
      [.ifS 4 7 [] none (some (4, 4)) [] 4 7 [.simple .mark 6 6 [] [] []] [],
       .simple .mark 8 8 [] [] [], .simple .mark 9 9 [] [] []]))]⟩

example : wfFileFunc legalExample = true := by decide
example : headIsFile legalExample = true := by decide
example : linesInFuncOK legalExample = true := by decide
/-- the hypotheses of `C03.line_guard` are met by the statement on line 6 (inside the `if` body)
    and the one on line 9 of the example -/
example : WalkedL 6 [Stmt.ifS 4 7 [] none (some (4, 4)) [] 4 7 [.simple .mark 6 6 [] [] []] [],
    .simple .mark 8 8 [] [] [], .simple .mark 9 9 [] [] []] := .head (.ifB (.head .mark))
example : WalkedL 9 [Stmt.ifS 4 7 [] none (some (4, 4)) [] 4 7 [.simple .mark 6 6 [] [] []] [],
    .simple .mark 8 8 [] [] [], .simple .mark 9 9 [] [] []] := .tail (.tail (.head .mark))
example : (marks legalExample .line [(4, 1), (9, 1)]).toOption.map (·.multi) = some [6, 9] := by decide +kernel

/-- non-vacuity: a file with a body-less declaration and a function with a body -/
example : functionScopes ⟨1, 9, #[0,0,0,0,0,0,0,0,0,1], #[], [.funcDecl none,
    .funcDecl (some (3, 8, some (4, 2), []))]⟩ = some [(1, 9), (3, 8)] := by decide

end GoatSpec.C01
