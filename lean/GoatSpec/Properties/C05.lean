import GoatSpec.Proofs.Closure
import GoatSpec.Proofs.Sort
/-! # C05 — tracking ids, components and service-start calls are mutually consistent
    (numbering and table construction; for every list of files / counts / import graphs). -/
namespace GoatSpec.C05
open GoatSpec

theorem number_ids (start : Nat) (hs : 1 ≤ start) (fs : List (String × Nat)) :
    (number start fs).flatMap idsOf = List.range' start (totalCount fs) := by
  induction fs generalizing start with
  | nil => rfl
  | cons f r ih =>
    obtain ⟨p, c⟩ := f
    -- the interval `[start, start + c - 1]` has `c` members because `start ≥ 1`
    have hs' : 1 ≤ start + c := Nat.le_add_right_of_le hs
    have hc : start + c - 1 + 1 - start = c := by rw [Nat.sub_add_cancel hs', Nat.add_sub_cancel_left]
    rw [number, List.flatMap_cons, idsOf, hc, ih (start + c) hs']
    exact List.range'_append_1

/-- **ids are 1..N exactly once each, by sorted path and source order**: for every list of
    (path, count) in the executor's order, the ids handed out file by file, read in file order,
    are `1, 2, …, N` with `N = Σ count`. -/
theorem ids_exact (fs : List (String × Nat)) :
    (number 1 fs).flatMap idsOf = List.range' 1 (totalCount fs) :=
  number_ids 1 (Nat.le_refl 1) fs

theorem insertNat_sorted_id (x : Nat) (l : List Nat) (h : ∀ y ∈ l, x ≤ y) : insertNat x l = x :: l :=
  Insertion.ins_of_le insertNat (fun _ => rfl) (fun _ _ _ => rfl) x l h

theorem sortInts_range' (s n : Nat) : sortInts (List.range' s n) = List.range' s n :=
  Insertion.sort_of_pairwise insertNat (fun _ => rfl) (fun _ _ _ => rfl) _ List.pairwise_le_range'

theorem dedupSorted_of_pairwise_lt : ∀ l : List Nat, l.Pairwise (· < ·) → dedupSorted l = l
  | [], _ => rfl
  | [_], _ => rfl
  | x :: y :: r, h => by
    have hxy : x ≠ y := Nat.ne_of_lt (List.rel_of_pairwise_cons h (.head _))
    rw [dedupSorted, if_neg (by simpa using hxy), dedupSorted_of_pairwise_lt _ h.of_cons]

theorem dedupSorted_range' (s n : Nat) : dedupSorted (List.range' s n) = List.range' s n :=
  dedupSorted_of_pairwise_lt _ List.pairwise_lt_range'

/-- **the generated package declares exactly these N identifiers**: `getTotalTrackIdxs` of the
    numbering is `[1..N]` -/
theorem total_ids (fs : List (String × Nat)) :
    totalIds (number 1 fs) = List.range' 1 (totalCount fs) := by
  simp only [totalIds, ids_exact, sortInts_range', dedupSorted_range']

/-- **equal numeric values**: in `TRACK_ID_START = iota; TRACK_ID_<id>…` the i-th listed id gets
    value i+1; with the list `[1..N]` the constant `TRACK_ID_k` therefore has value `k`. (That
    `TRACK_ID_END`, declared after them, is `N + 1` is read off the generated file, not stated here.) -/
theorem iota_values (n i : Nat) (h : i < n) : (List.range' 1 n)[i]'(by simpa using h) = i + 1 := by
  rw [List.getElem_range', Nat.one_mul, Nat.add_comm]

theorem mem_insertNat (x y : Nat) (l : List Nat) : y ∈ insertNat x l ↔ y = x ∨ y ∈ l :=
  (Insertion.ins_perm insertNat (fun _ => rfl) (fun _ _ _ => rfl) x l).mem_iff.trans List.mem_cons

theorem mem_sortInts (y : Nat) (l : List Nat) : y ∈ sortInts l ↔ y ∈ l :=
  (Insertion.sort_perm insertNat (fun _ => rfl) (fun _ _ _ => rfl) l).mem_iff

/-- **component list = the ids located in the packages of its import closure**: an id belongs to
    component `imports` iff it was handed to a file whose directory is one of `imports` -/
theorem component_ids (dirOf : String → String) (ivs : List (String × Nat × Nat)) (imports : List String) (id : Nat) :
    id ∈ componentIds dirOf ivs imports ↔ ∃ iv ∈ ivs, dirOf iv.1 ∈ imports ∧ id ∈ idsOf iv := by
  simp only [componentIds, mem_sortInts, List.mem_flatMap, List.mem_filter, beq_iff_eq]
  constructor
  · rintro ⟨d, hd, iv, ⟨hiv, hdir⟩, hid⟩
    exact ⟨iv, hiv, hdir ▸ hd, hid⟩
  · rintro ⟨iv, hiv, hd, hid⟩
    exact ⟨dirOf iv.1, hd, iv, ⟨hiv, rfl⟩, hid⟩

/-- reachability by at least one internal import edge -/
inductive Reach (imp : Nat → List Nat) : Nat → Nat → Prop
  | step {a b} : b ∈ imp a → Reach imp a b
  | trans {a b c} : Reach imp a b → c ∈ imp b → Reach imp a c

theorem collect_mono (imp : Nat → List Nat) (fuel dir : Nat) (v : List Nat) : ∀ x ∈ v, x ∈ collect imp fuel dir v :=
  ((collect_bounds imp (fun _ => True) fun _ _ _ _ => trivial).1 fuel dir v fun _ _ => trivial).mono

theorem collectL_mono (imp : Nat → List Nat) (fuel : Nat) (ps : List Nat) (cur : Nat) (v : List Nat) :
    ∀ x ∈ v, x ∈ collectL imp fuel ps cur v :=
  ((collect_bounds imp (fun _ => True) fun _ _ _ _ => trivial).2 fuel ps cur v fun _ _ => trivial).mono

/-- **closure soundness**: every package `collectImports(dir)` adds is reachable from `dir`
    through internal imports — a component never contains ids of a package the main does not
    (transitively) import -/
theorem closure_sound (imp : Nat → List Nat) (fuel dir : Nat) (v : List Nat) :
    ∀ x ∈ collect imp fuel dir v, x ∈ v ∨ Reach imp dir x :=
  ((collect_bounds imp (Reach imp dir) fun _ h _ => h.trans).1 fuel dir v fun _ => .step).new

theorem closureL_sound (imp : Nat → List Nat) (fuel : Nat) (ps : List Nat) (cur : Nat) (v : List Nat)
    (hps : ∀ p ∈ ps, p ∈ imp cur) :
    ∀ x ∈ collectL imp fuel ps cur v, x ∈ v ∨ Reach imp cur x :=
  ((collect_bounds imp (Reach imp cur) fun _ h _ => h.trans).2 fuel ps cur v fun p hp => .step (hps p hp)).new

/-- closedness as a decidable predicate means completeness: a closed set that contains the direct
    imports of `dir` contains everything reachable from `dir`. (`closedUnder` is what `judge:closure`
    evaluates on every implementation **and** model answer; that the model's walk is complete is
    `closure_complete`.) -/
theorem closed_complete (imp : Nat → List Nat) (v : List Nat) (hc : closedUnder imp v = true)
    (dir : Nat) (hd : ∀ p ∈ imp dir, p ∈ v) : ∀ x, Reach imp dir x → x ∈ v := by
  simp only [closedUnder, List.all_eq_true, List.contains_iff_mem] at hc
  intro x hr
  induction hr with
  | step h => exact hd _ h
  | trans _ h ih => exact hc _ ih _ h

/-- **closure completeness**: with more fuel than there are packages, everything reachable from
    `dir` through internal imports is collected -/
theorem closure_complete (imp : Nat → List Nat) (U : List Nat) (hU : ∀ p, ∀ q ∈ imp p, q ∈ U)
    (fuel dir : Nat) (hf : U.length < fuel) : ∀ x, Reach imp dir x → x ∈ collect imp fuel dir [] := by
  have hun : unvisited U [] < fuel := Nat.lt_of_le_of_lt (List.length_filter_le _ _) hf
  obtain ⟨hin, post⟩ := (collect_complete imp U hU).1 fuel dir [] hun
  intro x hr
  induction hr with
  | step hb => exact hin _ hb
  | trans _ hc ih => exact post.closed _ ih List.not_mem_nil _ hc

/-- **closure_correct**: `collectImports` computes exactly the packages reachable from the main
    directory in the internal import graph (the component of a main package is its import
    closure), for every import graph, given fuel beyond the number of packages -/
theorem closure_correct (imp : Nat → List Nat) (U : List Nat) (hU : ∀ p, ∀ q ∈ imp p, q ∈ U)
    (fuel dir : Nat) (hf : U.length < fuel) (x : Nat) :
    x ∈ collect imp fuel dir [] ↔ Reach imp dir x :=
  ⟨fun hx => (closure_sound imp fuel dir [] x hx).resolve_left List.not_mem_nil,
    closure_complete imp U hU fuel dir hf x⟩

example : (number 1 [("a.go", 2), ("b/c.go", 0), ("d.go", 3)]).map (fun iv => (iv.2.1, iv.2.2)) = [(1, 2), (3, 2), (3, 5)] := by decide
example : collect (fun d => if d = 0 then [1, 2] else if d = 1 then [2, 3] else if d = 3 then [1] else []) 5 0 [] = [3, 2, 1] := by
  simp [collect, collectL]  -- not `decide`: the mutual pair recurses on (fuel, list), compiled by well-founded recursion

theorem isMainEntry_iff (entries : List String) (dir : String) :
    isMainEntry entries dir = true ↔ "*" ∈ entries ∨ dir ∈ entries := by
  unfold isMainEntry
  simp only [List.any_eq_true, Bool.or_eq_true, beq_iff_eq]
  constructor
  · rintro ⟨e, he, h | h⟩
    · exact Or.inl (h ▸ he)
    · exact Or.inr (h ▸ he)
  · rintro (h | h)
    · exact ⟨"*", h, Or.inl rfl⟩
    · exact ⟨dir, h, Or.inr rfl⟩

/-- a single entry that is neither `*` nor the directory itself selects nothing: in particular not
    a directory whose name merely starts with the entry -/
theorem isMainEntry_lookalike (e d : String) (h1 : e ≠ "*") (h2 : e ≠ d) : isMainEntry [e] d = false := by
  simp [isMainEntry, h1, h2]

theorem serviceStartsFrom_eq (entries : List String) : ∀ (mains : List (String × List Nat)) (i : Nat),
    serviceStartsFrom entries i mains
      = ((mains.zipIdx i).filter (fun x => isMainEntry entries x.1.1 && !x.1.2.isEmpty)).map (·.2)
  | [], _ => rfl
  | (d, ids) :: r, i => by
    rw [serviceStartsFrom, serviceStartsFrom_eq entries r, List.zipIdx_cons, List.filter_cons]
    split <;> rfl

/-- **exactly the selected main packages with a non-empty id list start the service, with their own
    component identifier**: main package number `j` is in the list iff its directory is selected
    (`*` or listed itself) and its component lists an id -/
theorem service_start_exact (entries : List String) (mains : List (String × List Nat)) (j : Nat) :
    j ∈ serviceStarts entries mains ↔
      ∃ d ids, mains[j]? = some (d, ids) ∧ ("*" ∈ entries ∨ d ∈ entries) ∧ ids ≠ [] := by
  simp only [serviceStarts, serviceStartsFrom_eq, List.mem_map, List.mem_filter, List.mem_zipIdx_iff_getElem?,
    Bool.and_eq_true, isMainEntry_iff, Bool.not_eq_true', List.isEmpty_eq_false_iff]
  -- the left side has become `∃ a : (String × List Nat) × Nat, (mains[a.2]? = some a.1 ∧ …) ∧ a.2 = j`, the same
  -- three conditions on the components of `a.1`
  constructor
  · rintro ⟨⟨⟨d, ids⟩, _⟩, h, rfl⟩
    exact ⟨d, ids, h⟩
  · rintro ⟨d, ids, h⟩
    exact ⟨((d, ids), j), h, rfl⟩

/-- … **once**: the list is a sublist of the positions `0, 1, …` -/
theorem service_start_once (entries : List String) (mains : List (String × List Nat)) :
    (serviceStarts entries mains).Nodup := by
  rw [serviceStarts, serviceStartsFrom_eq]
  have hnd : (mains.zipIdx.map (·.2)).Nodup := by rw [List.zipIdx_map_snd]; exact List.nodup_range'
  exact hnd.sublist (List.filter_sublist.map _)

example : serviceStarts ["cmd/m0"] [("cmd/m0", [1, 2]), ("cmd/m0x", [3]), ("cmd/m0/tools/dump", [4])] = [0] := by decide
example : serviceStarts ["*"] [("cmd/a", [1]), ("cmd/b", []), (".", [2])] = [0, 2] := by decide
example : serviceStarts [] [("cmd/a", [1])] = [] := by decide

end GoatSpec.C05
