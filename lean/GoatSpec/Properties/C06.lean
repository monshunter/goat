import GoatSpec.Proofs.Clean
import GoatSpec.SkelSpec
/-! # C06 — goat clean removes every artefact and restores the original program
    (text level: the five regexp passes of `CleanExecutor.prepareContent`).

Statements are over *all* arrangements / *all* texts, by induction; nothing here is bounded. -/
namespace GoatSpec.C06
open GoatSpec

def cleanPassOrder : List Mk := [.delete, .insert, .generate, .main, .user]

/-- **C06 (arrangements).** For every well-formed arrangement of user lines, complete marker
    blocks of any kind and insert markers — any length, any order — clean keeps exactly the
    non-blank user lines, in order, leaves no marker line, and reports `changed` iff there was
    an artefact. ("Only lines that belong to a marker-delimited block are removed", up to the
    blank lines the regexps' `\s*` takes with a block.) -/
theorem clean_wf (items : List Item) (hwf : ∀ it ∈ items, it.wf = true) :
    nonBlank (cleanLines (flatten items)).2 = nonBlank (flatten (items.filter (fun it => it.kind.isNone)))
    ∧ (cleanLines (flatten items)).2.all plain = true
    ∧ (cleanLines (flatten items)).1 = items.any (fun it => it.kind.isSome) := by
  obtain ⟨hc, a⟩ := clean_arr (Arr.of_items hwf)
  exact ⟨a.nonBlank_eq, a.plain (kind_of_mem_userItems _), hc⟩

/-- the text `cleanLines` returns is the five erasing passes in `cleanPassOrder` (`erasePasses cleanPassOrder l` by
    definition); what holds of every list of erasing passes (Proofs/Idem) holds of it -/
theorem cleanLines_is_pass_order (l : List Line) :
    (cleanLines l).2 = cleanPassOrder.foldl (fun acc k => (pass k [] acc).2) l := rfl

/-- clean only ever removes lines: for **every** text the result is a sublist of the input -/
theorem clean_sublist (l : List Line) : (cleanLines l).2.Sublist l :=
  cleanLines_is_pass_order l ▸ erasePasses_sublist cleanPassOrder l

theorem clean_noM (l : List Line) (h : ∀ k ∈ cleanPassOrder, hasM k l = false) : cleanLines l = (false, l) := by
  simp only [cleanPassOrder, List.forall_mem_cons] at h
  simp only [cleanLines, pass_noM, h]
  rfl

/-- **C06 (idempotence).** For every text, cleaning the result of clean changes nothing and
    reports `changed = false` (so the second `goat clean` writes no file). -/
theorem clean_idempotent (l : List Line) : cleanLines (cleanLines l).2 = (false, (cleanLines l).2) :=
  clean_noM _ (cleanLines_is_pass_order l ▸ hasM_erasePasses cleanPassOrder l)

/-- **C06 (no-op).** A text in which no line starts a marker is returned unchanged with
    `changed = false`: clean on a tree without artefacts writes nothing. -/
theorem clean_noop (l : List Line) (h : l.all plain = true) : cleanLines l = (false, l) :=
  clean_noM l fun k _ => hasM_of_plain k h

/-- the tracking block written by track/patch is a well-formed generate block (re-checked
    against the extracted constants on every run) -/
theorem insertBlock_wf : genBlockItem.wf = true ∧ flatten [genBlockItem] = insertBlock :=
  ⟨genBlock_wf, genBlock_flatten⟩

/-- *witness*: outside well-formed arrangements the statement fails — an unterminated start
    marker makes the pass eat the user line up to the next block's end marker. -/
theorem unterminated_start_eats_user_code :
    let g := Extracted.trackGenerateComment
    let e := Extracted.trackEndComment
    let u : Line := ['x', '+', '+']
    (cleanLines [g, u, g, u, e]).2 = [] := by
  intro g e u
  have h1 : pass .delete [] [g, u, g, u, e] = (0, [g, u, g, u, e]) := pass_noM (by decide)
  have h2 : pass .insert [] [g, u, g, u, e] = (0, [g, u, g, u, e]) := pass_noM (by decide)
  have h3 : pass .generate [] [g, u, g, u, e] = (1, []) := by
    rw [pass_some (rest := []) [] (by decide), pass_nil]; rfl
  simp only [cleanLines, h1, h2, h3, pass_nil]

/-- non-vacuity: a concrete arrangement with every kind of item satisfies the hypotheses. -/
example : ∀ it ∈ [Item.user ['x'], Item.user [], genBlockItem, Item.ins Extracted.trackInsertComment,
    Item.block .delete Extracted.trackDeleteComment [['y']] Extracted.trackEndComment], it.wf = true := by
  decide

/-! The order of the passes, read off the source: `vh skeleton` translates /repo's Go source on every
run; `refOrder f` lists the package-level variables the body of `f` mentions, in source order. -/
section skeleton
open GoatSpec.SkelSpec

/-- the regular expression (package-level variable of pkg/config) that removes blocks of a kind -/
def passVar : Mk → String
  | .delete => "pkg/config.TrackDeleteEndRegexp"
  | .insert => "pkg/config.TrackInsertRegexp"
  | .generate => "pkg/config.TrackGenerateEndRegexp"
  | .main => "pkg/config.TrackMainEntryEndRegexp"
  | .user => "pkg/config.TrackUserEndRegexp"
  | .endm => "-"

/-- The two theorems below in one kernel evaluation: finding a function among the names of the
    skeleton (string comparisons) is nearly all of the work, and it is the same function. -/
theorem prepareContent_in_source :
    refOrder "pkg/goat.CleanExecutor.prepareContent" = cleanPassOrder.map passVar
    ∧ callOrder "pkg/goat.CleanExecutor.prepareContent" =
      ["pkg/utils.ReplaceWithRegexp", "pkg/utils.ReplaceWithRegexp", "pkg/utils.ReplaceWithRegexp",
       "pkg/utils.ReplaceWithRegexp", "pkg/utils.ReplaceWithRegexp", "pkg/config.Config.PrinterConfig",
       "pkg/utils.DeleteImport"] := by decide +kernel

/-- **`CleanExecutor.prepareContent` uses the five regular expressions in exactly the order the
    model composes its passes** (delete, insert, generate, main, user) and mentions no other
    package-level variable -/
theorem clean_pass_order_in_source :
    refOrder "pkg/goat.CleanExecutor.prepareContent" = cleanPassOrder.map passVar := prepareContent_in_source.1

/-- after the passes the function calls `DeleteImport` (through the printer configuration) and
    nothing else of the project -/
theorem clean_calls_in_source : callOrder "pkg/goat.CleanExecutor.prepareContent" =
    ["pkg/utils.ReplaceWithRegexp", "pkg/utils.ReplaceWithRegexp", "pkg/utils.ReplaceWithRegexp",
     "pkg/utils.ReplaceWithRegexp", "pkg/utils.ReplaceWithRegexp", "pkg/config.Config.PrinterConfig",
     "pkg/utils.DeleteImport"] := prepareContent_in_source.2

end skeleton

end GoatSpec.C06
