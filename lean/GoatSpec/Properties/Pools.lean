import GoatSpec.SkelSpec
/-! # Shared state of the worker pools (a premise of every property that quantifies over the
    thread count: C01, C02, C05, C06, C10, C14 as well as C08)

`Properties/C08.lean` states the same two theorems and takes them from here. They stand in a module
of their own so that the checks of those properties re-prove them against the regenerated skeleton
too: a change that lets the save / prepare / tracker goroutines share new package-level state (a
pooled buffer, a cache, a counter) breaks a proof obligation of each of them, whether or not a
schedule that shows the corruption turns up in that run. -/
namespace GoatSpec.Pools
open GoatSpec GoatSpec.SkelSpec

def regexps : List String :=
  ["pkg/config.TrackDeleteEndRegexp", "pkg/config.TrackInsertRegexp", "pkg/config.TrackGenerateEndRegexp",
   "pkg/config.TrackMainEntryEndRegexp", "pkg/config.TrackUserEndRegexp"]

/-- the functions that start goroutines: three diff stages (INIT is sequential) and the six pools of the commands -/
theorem pool_functions : spawners =
    ["pkg/diff.DifferV1.AnalyzeChanges", "pkg/diff.DifferV2.AnalyzeChanges",
     "pkg/diff.DifferV3.AnalyzeChanges", "pkg/goat.CleanExecutor.cleanContentsParallel",
     "pkg/goat.CleanExecutor.prepareContentsParallel", "pkg/goat.PatchExecutor.applyTracksParallel",
     "pkg/goat.PatchExecutor.prepareContentsParallel", "pkg/goat.TrackExecutor.initTracksParallel",
     "pkg/goat.TrackExecutor.saveTracksParallel"] := by decide +kernel

/-- **the goroutines touch no package-level variable except the five compiled regular
    expressions and the default printer configuration**; the diff workers touch none at all.
    A `.ref` is any use, read or write: that these six are only read once the package is
    initialised (and `*regexp.Regexp` is safe for concurrent use) is seen by inspection of the
    source, not shown by this theorem. -/
theorem pools_share_no_package_state :
    spawners.all (fun f => (spawnRefs f).all (fun v => regexps.contains v || v == "pkg/utils.defaultPrinterConfig")) = true
    ∧ (spawners.filter (fun f => spawnRefs f ≠ [])) =
      ["pkg/goat.CleanExecutor.cleanContentsParallel", "pkg/goat.CleanExecutor.prepareContentsParallel",
       "pkg/goat.PatchExecutor.applyTracksParallel", "pkg/goat.PatchExecutor.prepareContentsParallel",
       "pkg/goat.TrackExecutor.initTracksParallel", "pkg/goat.TrackExecutor.saveTracksParallel"] := by
  -- the nine names are put in first: `spawners` is not evaluated a second time
  rw [pool_functions]
  decide +kernel

end GoatSpec.Pools
