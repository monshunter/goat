import GoatSpec.Paths
/-! # C13 — only eligible changed Go files are ever modified (eligibility rule and walkers).

Theorems are over all paths, ignore lists and directory trees. The write sets of the commands
(which eligible files are actually rewritten) are an end-to-end oracle (`e2e track-decoys`). -/
namespace GoatSpec.C13
open GoatSpec

theorem specNested_iff (nested : List Path) (dir : Path) :
    specNested nested dir = true ↔ dir ≠ [] ∧ ∃ r ∈ nested, r <+: dir := by
  simp only [specNested, Bool.and_eq_true, Bool.not_eq_true', List.isEmpty_eq_false_iff, List.any_eq_true,
    List.isPrefixOf_iff_prefix]

theorem isTargetDir_iff (c : PathCfg) (dir : Path) :
    isTargetDir c dir = true ↔
      dir.head? ≠ some "vendor" ∧ dir.head? ≠ some "node_modules" ∧ "testdata" ∉ dir
      ∧ (∀ e ∈ c.ignores, ¬ e <+: dir)
      ∧ ¬ (c.skipNested = true ∧ specNested c.nestedRoots dir = true) := by
  simp only [isTargetDir, specNested, Bool.and_eq_true, Bool.not_eq_true', Bool.eq_false_iff, ne_eq, and_assoc,
    Bool.or_eq_true, beq_iff_eq, not_or, List.contains_iff_mem, List.any_eq_true, not_exists, not_and,
    List.isPrefixOf_iff_prefix]

theorem specNested_of_prefix {nested : List Path} {a dir : Path} (ha : a <+: dir)
    (h : specNested nested a = true) : specNested nested dir = true := by
  rw [specNested_iff] at h ⊢
  obtain ⟨hne, r, hin, hp⟩ := h
  exact ⟨fun e => hne (List.prefix_nil.mp (e ▸ ha)), r, hin, hp.trans ha⟩

theorem isTargetDir_of_append (c : PathCfg) (dir rest : Path) (h : isTargetDir c (dir ++ rest) = true) :
    isTargetDir c dir = true := by
  rw [isTargetDir_iff] at h ⊢
  obtain ⟨hv, hnm, ht, hi, hnest⟩ := h
  have hhead {s : String} (h : dir.head? = some s) : (dir ++ rest).head? = some s := by rw [List.head?_append, h]; rfl
  exact ⟨hv ∘ hhead, hnm ∘ hhead, fun hm => ht (List.mem_append_left _ hm),
    fun e he hp => hi e he (hp.trans (List.prefix_append ..)),
    fun ⟨hs, hn⟩ => hnest ⟨hs, specNested_of_prefix (List.prefix_append ..) hn⟩⟩

theorem isTargetFile_iff (c : PathCfg) (dir : Path) (name : String) :
    isTargetFile c dir name = true ↔
      (∀ e ∈ c.ignores, ¬ e <+: dir ++ [name]) ∧ isTargetDir c dir = true ∧ isGoFileName name = true := by
  simp only [isTargetFile, Bool.and_eq_true, Bool.not_eq_true', Bool.eq_false_iff, ne_eq, and_assoc, List.any_eq_true,
    not_exists, not_and, List.isPrefixOf_iff_prefix]

/-- **excluded ⇒ never selected**: vendor / node_modules at the root, a `testdata` segment, a
    nested module (when skipping), an ignored directory, an ignored file, test files, non-Go files -/
theorem excluded_never (c : PathCfg) (dir : Path) (name : String)
    (h : dir.head? = some "vendor" ∨ dir.head? = some "node_modules" ∨ "testdata" ∈ dir
      ∨ (∃ e ∈ c.ignores, e <+: dir) ∨ (∃ e ∈ c.ignores, e = dir ++ [name])
      ∨ (c.skipNested = true ∧ dir ≠ [] ∧ ∃ r ∈ c.nestedRoots, r <+: dir)
      ∨ isGoFileName name = false) :
    isTargetFile c dir name = false := by
  rw [← Bool.not_eq_true, isTargetFile_iff, isTargetDir_iff, specNested_iff]
  rintro ⟨hfile, ⟨hv, hnm, ht, hi, hnest⟩, hgo⟩
  rcases h with h | h | h | ⟨e, he, hp⟩ | ⟨e, he, rfl⟩ | ⟨hs, hn⟩ | h
  · exact hv h
  · exact hnm h
  · exact ht h
  · exact hi e he hp
  · exact hfile _ he (List.prefix_refl _)
  · exact hnest ⟨hs, hn⟩
  · simp [h] at hgo

/-- **eligible ⇒ always selected**: a non-test Go file outside all of the above is a target,
    whatever else its path looks like -/
theorem eligible_always (c : PathCfg) (dir : Path) (name : String)
    (hv : dir.head? ≠ some "vendor") (hn : dir.head? ≠ some "node_modules") (ht : "testdata" ∉ dir)
    (hi : ∀ e ∈ c.ignores, ¬ e <+: dir ++ [name])
    (hm : c.skipNested = true → ∀ r ∈ c.nestedRoots, ¬ r <+: dir)
    (hg : isGoFileName name = true) :
    isTargetFile c dir name = true := by
  rw [isTargetFile_iff, isTargetDir_iff, specNested_iff]
  exact ⟨hi, ⟨hv, hn, ht, fun e he hp => hi e he (hp.trans (List.prefix_append ..)),
    fun ⟨hs, _, r, hr, hp⟩ => hm hs r hr hp⟩, hg⟩

/-- exclusion is inherited downwards: below a non-target directory nothing is a target
    (this is why pruning with `SkipDir` loses nothing) -/
theorem isTargetDir_parent (c : PathCfg) (dir : Path) (x : String)
    (h : isTargetDir c (dir ++ [x]) = true) : isTargetDir c dir = true ∨ dir = [] ∧ False ∨ isTargetDir c dir = true :=
  .inl (isTargetDir_of_append c dir [x] h)

/-- a one-segment entry is a prefix only of paths whose first segment *equals* it: a directory
    whose name merely extends an ignored name is not excluded by that entry -/
theorem lookalike_not_excluded (e : String) (x : String) (rest : Path) (h : e ≠ x) :
    ¬ [e] <+: (x :: rest) :=
  fun hp => h (List.cons_prefix_cons.mp hp).1

theorem isTargetFile_dir (c : PathCfg) (dir : Path) (n : String) (h : isTargetFile c dir n = true) :
    isTargetDir c dir = true :=
  ((isTargetFile_iff c dir n).mp h).2.1

theorem selectFiles_append (c : PathCfg) (a b : List (Path × String)) :
    selectFiles c (a ++ b) = selectFiles c a ++ selectFiles c b := by
  simp only [selectFiles, List.filter_append, List.map_append]

theorem walk_pruned (c : PathCfg) (at_ : Path) (hat : ¬ isTargetDir c at_ = true) : ∀ t, walk c at_ t = []
  | .file n => by
    rw [walk, if_neg]
    exact fun h => hat (isTargetFile_dir c at_ n h)
  | .dir n cs => by
    rw [walk, if_neg]
    exact fun h => hat (isTargetDir_of_append c at_ [n] h)

theorem walkL_pruned (c : PathCfg) (at_ : Path) (hat : ¬ isTargetDir c at_ = true) : ∀ ts, walkL c at_ ts = []
  | [] => rfl
  | t :: r => by rw [walkL, walk_pruned c at_ hat t, walkL_pruned c at_ hat r]; rfl

/-! **the walkers agree with the differs' rule**: for every directory tree, the pruned walk
    (prepareFiles / INIT / main scan) selects exactly the files the path-wise rule selects
    (precision 1–3) — the places that decide eligibility cannot disagree. -/
mutual
theorem walkers_agree (c : PathCfg) (at_ : Path) (t : Tree) :
    walk c at_ t = selectFiles c (allFiles at_ t) := by
  cases t with
  | file n =>
    simp only [walk, allFiles, selectFiles]
    cases h : isTargetFile c at_ n <;> simp [h]
  | dir n cs =>
    rw [allFiles, ← walkers_agreeL c (at_ ++ [n]) cs, walk]
    split
    · rfl
    · next h => exact (walkL_pruned c _ h cs).symm
theorem walkers_agreeL (c : PathCfg) (at_ : Path) (ts : List Tree) :
    walkL c at_ ts = selectFiles c (allFilesL at_ ts) := by
  cases ts with
  | nil => rfl
  | cons t r =>
    rw [walkL, allFilesL, selectFiles_append, walkers_agree c at_ t, walkers_agreeL c at_ r]
end

theorem select_pruned (c : PathCfg) (at_ : Path) (hat : isTargetDir c at_ = false) (t : Tree) :
    selectFiles c (allFiles at_ t) = [] :=
  (walkers_agree c at_ t).symm.trans (walk_pruned c at_ (Bool.eq_false_iff.mp hat) t)

/-- non-vacuity: the rule on decoy directories (ignored: `ignoredir`; nested module: `nested`) -/
example :
    ([["vendor"], ["vendor", "x"], ["vendorx"], ["ignoredir"], ["ignoredirx"], ["nested", "sub"], ["pkg", "l0"],
      ["pkg", "l0", "testdata"], []].map
      (isTargetDir ⟨[["ignoredir"], ["pkg", "l0", "ignored_file.go"]], true, [["nested"]]⟩))
      = [false, false, true, false, true, false, true, false, true] := by
  decide

theorem mem_ancestorsOrSelf {p a : Path} : a ∈ ancestorsOrSelf p ↔ a <+: p := by
  simp only [ancestorsOrSelf, List.mem_reverse, List.mem_map, List.mem_range]
  exact ⟨fun ⟨k, _, h⟩ => h ▸ List.take_prefix k p,
    fun h => ⟨a.length, Nat.lt_succ_of_le h.length_le, (List.prefix_iff_eq_take.mp h).symm⟩⟩

/-- the upward walk finds a go.mod exactly when the specification says so -/
theorem uncached_is_spec (nested : List Path) (hn : ∀ r ∈ nested, r ≠ []) (dir : Path) :
    uncachedNested nested dir = specNested nested dir := by
  rw [Bool.eq_iff_iff, specNested_iff]
  simp only [uncachedNested, List.any_eq_true, mem_ancestorsOrSelf, Bool.and_eq_true, Bool.not_eq_true',
    List.isEmpty_eq_false_iff, List.contains_iff_mem]
  exact ⟨fun ⟨a, hp, hne, hin⟩ => ⟨fun h => hne (List.prefix_nil.mp (h ▸ hp)), a, hin, hp⟩,
    fun ⟨_, r, hin, hp⟩ => ⟨r, hp, hn r hin, hin⟩⟩

/-- every cached answer is the answer of the cache-free rule -/
def CacheOK (nested : List Path) (cache : NCache) : Prop :=
  ∀ d b, cache.lookup d = some b → b = specNested nested d

theorem CacheOK.cons {nested : List Path} {cache : NCache} (hc : CacheOK nested cache) {dir : Path} {b : Bool}
    (hb : b = specNested nested dir) : CacheOK nested ((dir, b) :: cache) := by
  intro d b' hd
  rw [List.lookup_cons] at hd
  split at hd
  · next h => rw [← Option.some.inj hd, eq_of_beq h, hb]
  · exact hc d b' hd

/-- **one call**: with a cache that holds only correct answers, `IsBelongNestedModule` answers the
    specification and leaves such a cache -/
theorem query_correct (nested : List Path) (hn : ∀ r ∈ nested, r ≠ []) (cache : NCache) (dir : Path)
    (hc : CacheOK nested cache) :
    (queryNested nested cache dir).1 = specNested nested dir ∧ CacheOK nested (queryNested nested cache dir).2 := by
  unfold queryNested
  cases hl : cache.lookup dir with
  | some b => exact ⟨hc dir b hl, hc⟩
  | none =>
    simp only
    split
    · next hany =>
      obtain ⟨a, ha, hla⟩ := List.any_eq_true.mp hany
      -- an ancestor `a` is cached as nested
      have hs : true = specNested nested dir :=
        (specNested_of_prefix (mem_ancestorsOrSelf.mp ha) (hc a true (eq_of_beq hla)).symm).symm
      exact ⟨hs, hc.cons hs⟩
    · exact ⟨uncached_is_spec nested hn dir, hc.cons (uncached_is_spec nested hn dir)⟩

/-- **the cache is transparent**: for every sequence of queries, in any order, starting from any
    cache of correct answers (the empty one in particular), every answer is the stateless
    specification's — the nested-module test does not depend on which directories were asked about
    before -/
theorem nested_cache_transparent (nested : List Path) (hn : ∀ r ∈ nested, r ≠ []) (qs : List Path) :
    ∀ cache, CacheOK nested cache → runNested nested cache qs = qs.map (specNested nested) := by
  induction qs with
  | nil => intro _ _; rfl
  | cons q r ih =>
    intro cache hc
    obtain ⟨h1, h2⟩ := query_correct nested hn cache q hc
    simp only [runNested, List.map_cons, h1, ih _ h2]

theorem nested_cache_transparent_empty (nested : List Path) (hn : ∀ r ∈ nested, r ≠ []) (qs : List Path) :
    runNested nested [] qs = qs.map (specNested nested) :=
  nested_cache_transparent nested hn qs [] nofun

/-- the specification is the clause of `isTargetDir` -/
theorem isTargetDir_nested_clause (c : PathCfg) (dir : Path) (h : c.skipNested = true)
    (hs : specNested c.nestedRoots dir = true) : isTargetDir c dir = false := by
  rw [← Bool.not_eq_true, isTargetDir_iff]
  exact fun ⟨_, _, _, _, hnested⟩ => hnested ⟨h, hs⟩

/-- non-vacuity: a sibling asked after the module directory, a sub-directory asked before and after it -/
example : runNested [["plugin"]] [] [["plugin", "sub"], ["plugin"], ["pluginapi"], ["plugin", "sub", "x"], []] =
    [true, true, false, true, false] := by decide

end GoatSpec.C13
