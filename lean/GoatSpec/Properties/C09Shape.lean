import GoatSpec.Properties.C01
/-! # C09 (continued) — where a tracking block may stand at line granularity, on well-formed files. -/
namespace GoatSpec.C09
open GoatSpec

/-- **line_shape (C09, line granularity, on well-formed files): a tracking block stands only
    directly before a changed statement or at the start of a branch.** For every abstract file
    that meets `wfFile`, every changed-line set: each multi-line position `r` at line granularity
    is either the first line of a statement of a block of the file and itself a changed line, or
    the first boundary (first statement, or closing line when empty) of a branch block — a block
    with a header: the body of an if / else / for / range / case / comm clause. Nothing else ever
    becomes a position. -/
theorem line_shape (f : File) (hwf : wfFile f = true)
    (ranges : List (Nat × Nat)) (m : Marks) (h : marks f .line ranges = .ok m)
    (env : Env) (henv : mkEnv f .line ranges = .ok env) :
    ∀ r ∈ m.multi,
      (∃ b ∈ fileBlks f, r ∈ b.lines ∧ env.isChanged r = .ok true) ∨
      (∃ b ∈ fileBlks f, b.header ≠ [] ∧ b.lo < b.hi ∧ r = b.firstBoundary) := fun r hr =>
  (C01.position_origin f hwf .line (by decide) ranges m h env henv r hr).imp
    (fun ⟨b, hb, _, hl, hc⟩ => ⟨b, hb, hl, hc⟩) (fun ⟨b, hb, k, hh, hr⟩ => ⟨b, hb, hh, k.lt, hr⟩)

end GoatSpec.C09
