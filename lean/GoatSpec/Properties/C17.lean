import GoatSpec.Properties.C04
/-! # C17 — for precision 2/3 the result depends only on the two revisions' contents

  `track23_factors` / `trackInit_factors` are statements about the *shape* of the model: the
  precision 2, 3 and INIT diff stages are written as functions of the two end-point trees (of the
  work tree) alone.  They are immediate, and they say nothing about the Go code by themselves —
  **their weight is entirely in the correspondence**: the streams diff-pairs / diff-histories tie
  the real `getDiff` to this model on real repositories, and the end-to-end oracle `history-pairs`
  runs the real `goat track` on pairs of histories with equal end-point trees and requires
  byte-identical results; that is what detects commit metadata leaking into the decision (as it did
  at precision 1, whose stage takes the commit table and the blame as further inputs).
  `exact_unique_23` is a genuine theorem about the chunk walk. -/
namespace GoatSpec.C17
open GoatSpec GoatSpec.Diff

/-- a revision's tree: path and content -/
abbrev Tree := List (String × List Char)

/-- everything a history consists of, as far as the diff stage could look at it -/
structure History where
  oldTree : Tree
  newTree : Tree
  /-- the checked-out files (equal to `newTree` on a clean work tree) -/
  workTree : Tree
  commits : Table
  oldId : Nat
  newId : Nat
  /-- go-git's blame of each path of the new revision -/
  blame : String → List Nat
  /-- loose or packed object store -/
  packed : Bool

/-- what go-git contributes at precision 2/3, as functions of the two trees only: the pairing of
    paths (with or without rename detection) and the line diff of two contents -/
structure GoGit where
  pair2 : Tree → Tree → List (Option String × Option String)
  pair3 : Tree → Tree → List (Option String × Option String)
  script : Option (List Char) → Option (List Char) → List NChunk

def content (t : Tree) (p : Option String) : Option (List Char) := p.bind (fun p => (t.find? (·.1 == p)).map (·.2))

/-- the slot a pair of paths produces (`analyzeChange`) -/
def slot (g : GoGit) (elig : String → Bool) (old new : Tree) (v3 : Bool) (pr : Option String × Option String) :
    Option (String × List Range) :=
  match pr.2 with
  | none => none
  | some to =>
    let cs := g.script (content old pr.1) (content new (some to))
    let r := if v3 then analyzeV3 (elig to) (if pr.1.isSome then .modify else .insert) cs
             else analyzeV2 (elig to) pr.1.isSome true cs
    r.map (fun rs => (to, rs))

/-- the diff stage of precision 2 / 3 (compaction + the executor's sort) as a function of the trees -/
def stageOfTrees (g : GoGit) (elig : String → Bool) (v3 : Bool) (old new : Tree) : List (String × List Range) :=
  sortByPath (filterValid ((if v3 then g.pair3 old new else g.pair2 old new).map (slot g elig old new v3)))

/-- INIT as a function of the work tree -/
def stageOfWorkTree (elig : String → Bool) (gen : String) (work : Tree) : List (String × List Range) :=
  sortByPath (initChanges gen (work.filter (fun f => elig f.1)))

/-- the stage `getDiff` + `initChanges` run for a history in mode INIT / 2 / 3 -/
def stage (g : GoGit) (elig : String → Bool) (gen : String) (m : Mode) (h : History) : List (String × List Range) :=
  match m with
  | .init => stageOfWorkTree elig gen h.workTree
  | .v2 => stageOfTrees g elig false h.oldTree h.newTree
  | .v3 => stageOfTrees g elig true h.oldTree h.newTree
  | _ => []

/-- **model-level path independence** (precision 2 and 3): two histories with the same old tree and
    the same new tree — whatever their commits, order, timestamps, branches, merges, reverts, blame
    and store — give the same sorted change list.  Immediate from the model's shape; see the module
    comment for where the weight lies. -/
theorem track23_factors (g : GoGit) (elig : String → Bool) (gen : String) (m : Mode) (hm : m = .v2 ∨ m = .v3)
    (h1 h2 : History) (ho : h1.oldTree = h2.oldTree) (hn : h1.newTree = h2.newTree) :
    stage g elig gen m h1 = stage g elig gen m h2 := by
  rcases hm with rfl | rfl <;> simp [stage, ho, hn]

/-- with base INIT the result depends on the checked-out new revision only -/
theorem trackInit_factors (g : GoGit) (elig : String → Bool) (gen : String)
    (h1 h2 : History) (hw : h1.workTree = h2.workTree) :
    stage g elig gen .init h1 = stage g elig gen .init h2 := by
  simp [stage, hw]

/-- **exactness with unique lines** (precision 2/3).  For every whole-line chunk script whose new
    file has pairwise distinct lines and which is *maximal* — it keeps (as Equal) at least as many
    lines as the two files have in common, the upper bound for any valid script (A10: what
    diffmatchpatch returns when the common lines appear in the same order, i.e. edits only insert,
    modify or delete lines) — the reported lines are exactly the lines of the new file that do not
    occur in the old one, and the unreported lines exactly those that do. -/
theorem exact_unique_23 {α : Type} [DecidableEq α] (cs : List (LChunk α))
    (hnd : (newOf cs).Nodup)
    (hmax : ((newOf cs).filter (fun l => decide (l ∈ oldOf cs))).length ≤ (eqOf cs).length) :
    reported (getLineChange true true (num cs)) (newOf cs) = (newOf cs).filter (fun l => !decide (l ∈ oldOf cs)) ∧
    unreported (getLineChange true true (num cs)) (newOf cs) = (newOf cs).filter (fun l => decide (l ∈ oldOf cs)) := by
  rw [getLineChange_walk, (walk_lines cs).1, (walk_lines cs).2]
  -- the Equal lines are common lines, and by `hmax` there are no others
  have heq := sublist_eq_filter (eqOf_sublist_new cs)
    (fun l hl => decide_eq_true ((eqOf_sublist_old cs).subset hl)) hmax
  -- so the Add lines are the rest of the new file: both complete the Equal lines to a permutation of it
  -- (no appeal to `hnd`: a common line among the Add lines would already break `hmax`)
  have hp : (addOf cs).Perm ((newOf cs).filter (fun l => !decide (l ∈ oldOf cs))) := by
    refine (List.perm_append_left_iff (eqOf cs)).mp ((newOf_perm cs).symm.trans ?_)
    rw [heq]; exact (List.filter_append_perm _ _).symm
  exact ⟨sublist_eq_filter (addOf_sublist_new cs) (fun l hl => (List.mem_filter.mp (hp.mem_iff.mp hl)).2)
    (Nat.le_of_eq hp.length_eq.symm), heq⟩

/-- **exactness of the blame walk** (precision 1) — *partial*: what is proved is that for every flag
    vector the walk reports exactly the flagged lines and leaves exactly the unflagged ones.  That
    the flags of the fixed rule coincide with "does not occur in the old file" needs A6 in both
    directions (a faithful blame on an ancestor history with unique lines) and the completeness of the
    fuelled ancestor walk; both are monitored on every case of the stream diff-exact, not proved. -/
theorem exact_unique_1_partial {α : Type} (flags : List Bool) (new : List α) (h : new.length = flags.length) :
    reported (blameRanges flags) new = pick true new flags ∧ unreported (blameRanges flags) new = pick false new flags :=
  (C04.blame_partition flags new h).symm

example :
    let cs : List (LChunk String) := [(.eq, ["a"]), (.del, ["b"]), (.add, ["X"]), (.eq, ["c"]), (.add, ["Y"]), (.eq, ["d"])]
    (newOf cs).Nodup ∧ ((newOf cs).filter (fun l => decide (l ∈ oldOf cs))).length ≤ (eqOf cs).length ∧
    reported (getLineChange true true (num cs)) (newOf cs) = ["X", "Y"] := by decide
/-- a non-maximal script (deletes and re-adds the common line `c`) over-reports: the hypothesis is needed -/
example :
    let cs : List (LChunk String) := [(.eq, ["a"]), (.del, ["b", "c"]), (.add, ["X", "c"]), (.eq, ["d"])]
    reported (getLineChange true true (num cs)) (newOf cs) = ["X", "c"] ∧
    ¬ ((newOf cs).filter (fun l => decide (l ∈ oldOf cs))).length ≤ (eqOf cs).length := by decide
/-- two histories with equal end trees but different commit tables: the stage agrees -/
example (g : GoGit) (e : String → Bool) :
    stage g e "goat/goat_generated.go" .v2 ⟨[("a.go", ['x'])], [("a.go", ['y'])], [], [⟨0, 0, []⟩, ⟨1, 5, [0]⟩], 0, 1, fun _ => [], false⟩ =
    stage g e "goat/goat_generated.go" .v2 ⟨[("a.go", ['x'])], [("a.go", ['y'])], [], [⟨0, 9, []⟩, ⟨1, 9, [0]⟩, ⟨2, 9, [1]⟩], 0, 2, fun _ => [2], true⟩ :=
  track23_factors g e _ .v2 (Or.inl rfl) _ _ rfl rfl

end GoatSpec.C17
