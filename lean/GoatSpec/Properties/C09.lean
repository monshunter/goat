import GoatSpec.Proofs.Walk
import GoatSpec.Proofs.Mono
import GoatSpec.Proofs.FuncScope
/-! # C09 — tracking points appear only where a change justifies them, once.

The theorems are about the bookkeeping fold of `increment.go` (`runEvents`) for **every** event
list and every abstract file, by induction; the abstract file and the fold are tied to the code
by the `marks-stdlib` / `marks-gen` correspondence streams. -/
namespace GoatSpec.C09
open GoatSpec

/-- **no two tracking blocks adjacent, none misplaced** — for every event list, whenever the
    fold terminates normally: the multi-line positions are pairwise distinct, none is on a
    comment-like or blank line (so the code line they precede separates two blocks), each lies
    strictly inside a function body, and `count` equals the number of recorded positions. -/
theorem points_distinct_and_placed (env : Env) (evs : List Ev) (st : MState)
    (h : runEvents env evs = .ok st) :
    st.multi.Nodup ∧ (∀ l ∈ st.multi, env.isComment l = .ok false)
      ∧ (∀ l ∈ st.multi, searchScopes env.funcs l ≠ 0)
      ∧ st.count = st.multi.length + st.singles.length :=
  let i := runEvents_inv h
  ⟨i.nodup, i.notComment, i.inFunc, i.count⟩

/-- **files without a changed line receive no tracking point** — for every abstract file: when
    no line is reported changed, the fold ends in the initial state (count 0, no positions). (In
    goat `doInsert` then returns the original bytes; that is not part of the statement.) -/
theorem no_change_no_points (env : Env) (f : File)
    (hch : ∀ l b, env.isChanged l = .ok b → b = false) (st : MState)
    (h : runEvents env (fileEvents (fun _ => false) f) = .ok st) :
    st.multi = [] ∧ st.singles = [] ∧ st.count = 0 := by
  have hf : ∀ ev ∈ fileEvents (fun _ => false) f, ev.isForce = false := by
    intro ev hev
    obtain ⟨d, _, hd⟩ := List.mem_flatMap.mp hev
    exact declEvents_noForce d ev hd
  -- no event fires, no single-line literal passes: the state stays the initial one
  have : st = {} := by
    refine run_inv (fun s => s = {}) ?_ (fun l c hc => nomatch hch l true hc) rfl h
    rintro l (⟨_, hc⟩ | hev)
    · exact nomatch hch l true hc
    · exact nomatch hf _ hev
  subst this
  exact ⟨rfl, rfl, rfl⟩

/-- at **func granularity** every call of `markInsert` is made with the line after the opening
    brace of a function scope that strictly contains the event line; hence every position is
    the first non-comment line of such a function body (its first statement) -/
theorem func_positions (env : Env) (hg : env.gran = .func) (st st' : MState) (line : Nat)
    (hinv : Inv env st) (h : forceMark env st line = .ok st') :
    ∀ l ∈ st'.multi, l ∈ st.multi ∨
      ∃ s e, env.funcs[searchScopes env.funcs line]? = some (s, e) ∧ searchScopes env.funcs line ≠ 0 ∧
        skipComments env (env.comments.size + 1) (s + 1) = .ok l := by
  intro x hx
  rcases (forceMark_spec h).new x hx with h1 | ⟨⟨hn, _⟩ | ⟨_, ht⟩, _⟩
  · exact Or.inl h1
  · exact absurd hg hn
  · exact Or.inr ht

/-- **tracking points only where a change justifies them** — for every event list and every
    granularity, whenever the fold terminates normally: every multi-line position is the target
    (`Target`) of a `check` event whose line is changed or of a `force` event (a changed header);
    nothing else ever becomes a position. -/
theorem points_justified (env : Env) (evs : List Ev) :
    ∀ (st st' : MState), Inv env st → evs.foldlM (stepEv env) st = .ok st' →
      ∀ r ∈ st'.multi, r ∈ st.multi ∨
        ∃ l, ((Ev.check l ∈ evs ∧ env.isChanged l = .ok true) ∨ Ev.force l ∈ evs) ∧ Target env l r := by
  intro st st' _ h
  refine run_inv (fun s => ∀ r ∈ s.multi, r ∈ st.multi ∨ ∃ l, Active env evs l ∧ Target env l r) ?_
    (fun _ _ _ _ hp => hp) (fun _ hr => Or.inl hr) h
  intro l hl s s' hp hs r hr
  exact ((forceMark_spec hs).new r hr).elim (hp r) (fun ht => Or.inr ⟨l, hl, ht.1⟩)

/-- **the number of tracking points never increases from line to patch / scope granularity**:
    for every event list (the events do not depend on the granularity), whenever both folds
    terminate normally, the positions chosen at patch or scope granularity are among those
    chosen at line granularity, the single-line positions are the same, and so
    `count` does not increase. -/
theorem coarser_sub_line (env : Env) (g : Gran) (hg : g ≠ .func) (evs : List Ev) (sC sL : MState)
    (hC : runEvents (env.withGran g) evs = .ok sC) (hL : runEvents (env.withGran .line) evs = .ok sL) :
    (∀ x ∈ sC.multi, x ∈ sL.multi) ∧ sC.singles = sL.singles ∧ sC.count ≤ sL.count :=
  sub_line (.withGran env g .line) hg rfl hC hL

/-- **… nor from patch to scope granularity**: every scope key's first event inserts at patch
    granularity too (a fresh patch-scope array never blocks), so the scope positions are among
    the patch positions and `count` does not increase. Together with `coarser_sub_line`:
    count(line) ≥ count(patch) ≥ count(scope). -/
theorem scope_sub_patch (env : Env) (evs : List Ev) (sS sP : MState)
    (hS : runEvents (env.withGran .scope) evs = .ok sS) (hP : runEvents (env.withGran .patch) evs = .ok sP) :
    (∀ x ∈ sS.multi, x ∈ sP.multi) ∧ sS.singles = sP.singles ∧ sS.count ≤ sP.count :=
  sub_patch (.withGran env .scope .patch) rfl rfl rfl hS hP

/-- **… nor from scope to func granularity** — the last link of the chain. This one is a counting
    argument, not an inclusion (a func position is the start of the function, a scope position the
    first changed statement of a block): for every event list, whenever both folds terminate
    normally and the two scope structures of the environment are coherent on the active lines
    (`cohOK`: a line inside a function lies in a track scope of that same function; the insert
    position of a keyed line lies inside a function; two lines with the same insert position have
    scope keys of the same function — decidable, evaluated by the harness on every judged input,
    `judge:coh`), the func run has no more positions than the scope run, the same single-line
    positions, and `count` does not increase. -/
theorem func_le_scope (env : Env) (evs : List Ev) (sF sS : MState)
    (hF : runEvents (env.withGran .func) evs = .ok sF) (hS : runEvents (env.withGran .scope) evs = .ok sS)
    (hc : cohOK env evs = true) :
    sF.multi.length ≤ sS.multi.length ∧ sF.singles = sS.singles ∧ sF.count ≤ sS.count :=
  func_le (.withGran_right env .func) (.withGran_right env .scope) rfl rfl rfl hF hS hc

/-- **the whole chain for one file**: for every abstract file and changed-line set on which the
    tracker terminates normally at all four granularities (and the scope structures are coherent on
    the active lines, for the last link), the number of tracking points satisfies
    count(func) ≤ count(scope) ≤ count(patch) ≤ count(line). -/
theorem marks_count_chain (f : File) (ranges : List (Nat × Nat)) (mL mP mS mF : Marks)
    (hL : marks f .line ranges = .ok mL) (hP : marks f .patch ranges = .ok mP)
    (hS : marks f .scope ranges = .ok mS) (hF : marks f .func ranges = .ok mF)
    (envS : Env) (henv : mkEnv f .scope ranges = .ok envS)
    (hc : cohOK envS (fileEvents (fun l => envS.changed.getD l false) f) = true) :
    mF.count ≤ mS.count ∧ mS.count ≤ mP.count ∧ mP.count ≤ mL.count := by
  obtain ⟨eL, sL, heL, hrL, rfl⟩ := marks_eq f .line ranges mL hL
  obtain ⟨eP, sP, heP, hrP, rfl⟩ := marks_eq f .patch ranges mP hP
  obtain ⟨eS, sS, heS, hrS, rfl⟩ := marks_eq f .scope ranges mS hS
  obtain ⟨eF, sF, heF, hrF, rfl⟩ := marks_eq f .func ranges mF hF
  cases henv.symm.trans heS
  obtain ⟨sameL, gS, gL, _⟩ := mkEnv_same henv heL
  obtain ⟨sameP, _, gP, treesP⟩ := mkEnv_same henv heP
  obtain ⟨sameF, _, gF, _⟩ := mkEnv_same henv heF
  obtain ⟨samePL, _, _, _⟩ := mkEnv_same heP heL
  rw [sameL.changed] at hrL
  rw [sameP.changed] at hrP
  rw [sameF.changed] at hrF
  obtain ⟨_, _, hFS⟩ := func_le sameF (.refl envS) rfl gF gS hrF hrS hc
  obtain ⟨_, _, hSP⟩ := sub_patch sameP (treesP (Or.inr rfl) (Or.inl rfl)) gS gP hrS hrP
  obtain ⟨_, _, hPL⟩ := sub_line samePL (by rw [gP]; decide) gL hrP hrL
  exact ⟨hFS, hSP, hPL⟩

def exampleEnv : Env :=
  { gran := .line, n := 6, changed := #[false, false, false, true, false, true, false],
    comments := #[false, false, false, false, false, false, false], funcs := [(1, 7), (2, 6)], trees := [] }

/-- non-vacuity: the fold on a concrete two-event input ends in a state with one position -/
example : (runEvents exampleEnv [.check 3, .check 4]).toOption.map (·.multi) = some [3] := by
  decide

/-- non-vacuity of the hypothesis `cohOK` of `func_le_scope`: function block (2, 9) with a child
    block (4, 7); the events of changed statements on lines 5, 6 (child block) and 8 (function
    block) are coherent -/
def exampleCohEnv : Env :=
  { gran := .scope, n := 9, changed := #[false, false, false, false, false, true, true, false, true, false],
    comments := #[false, false, false, false, false, false, false, false, false, false],
    funcs := [(1, 10), (2, 9)], trees := [.mk 2 9 [.mk 4 7 []]] }

example : cohOK exampleCohEnv [.check 3, .check 5, .check 6, .check 8] = true := by
  -- `decide` is stuck on `searchChildren` (well-founded recursion does not reduce): `simp` with the equations instead
  simp [cohOK, activeLines, cohLine, selfKey, keyOf, keyFunc, skipOf, exampleCohEnv, searchTrees, TScope.search,
    searchChildren, skipComments, Env.isComment, searchScopes, TScope.s, TScope.e]

end GoatSpec.C09
