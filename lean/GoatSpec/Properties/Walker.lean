import GoatSpec.Proofs.WalkEval
import GoatSpec.Proofs.Walk
import GoatSpec.Walker
/-! # The statement and expression walkers of pkg/tracking/increment.go, as translated from the
    source on every run (`GoatSpec/Walker.lean`), denote the model's walk equations.

A premise of every theorem about *where* tracking points go (C01 `marks_legal`, C03 `line_guard` …,
C09 `points_justified`, `line_shape`): those are statements about `Mark.evS` / `Mark.evE`. Here the
kernel checks, against the regenerated IR, that for EVERY go/ast statement node `g` one step of
`processStatements` — the selected type-switch arm with its guards, loops and calls, recursive
calls replaced by the model's answer for their arguments — produces exactly `evS (abstrS g)`,
and likewise `analyzeAndModifyExpr` / `evE`, the `ast.Inspect` callback of `processControlStatements` /
`ctlHead`, the two passes over global value specs, and the loop of `addStmts` / `declEvents`, so that
`fileEvents` is what the source says (`fileEvents_is_source`). A change of the walkers (an arm added or dropped,
another field walked, a guard changed, an early return) changes the IR or makes the translation
fail, and these theorems no longer check; arms for distinct types in another order mean the same
and still check. -/
namespace GoatSpec.WalkerTie
open GoatSpec GoatSpec.GoAst GoatSpec.WalkIR GoatSpec.WalkSpec

/- Every case below is one `simp` run of the interpreter (`Proofs/WalkEval.lean`) on a node of known kind.
   These are the equations of the other side: the extractor's mapping and the model's walk. -/
attribute [local simp] abstrS abstrE abstrL abstrOS abstrEs abstrD firstPos evS evL evEs evE evElse
  ctlHead elseForce declEvents
/- No step needs `BEq.rfl`, and `simp` tries it at every comparison of a type name or field name: the file is
   dearer to check with it. (An erasure cannot be marked `local`; it ends with the namespace all the same.) -/
attribute [-simp] BEq.rfl

theorem mapM_some {α β : Type} {g : α → Option β} (f : α → β) (l : List α) (h : ∀ x ∈ l, g x = some (f x)) :
    l.mapM g = some (l.map f) := by
  induction l with
  | nil => rfl
  | cons x r ih =>
    rw [List.mapM_cons, h x (by simp), ih fun y hy => h y (by simp [hy])]; rfl

theorem evEs_append (a b : List Expr) : evEs (a ++ b) = evEs a ++ evEs b := by
  induction a with
  | nil => simp
  | cons x xs ih => simp [ih]

theorem evL_append (a b : List Stmt) : evL (a ++ b) = evL a ++ evL b := by
  induction a with
  | nil => simp
  | cons x xs ih => simp [ih]

theorem expand_recE_each (l : List GExpr) : expand (l.flatMap fun x => [Item.recE [x]]) = evEs (abstrEs l) := by
  induction l with
  | nil => rfl
  | cons x xs ih => simp [ih]

/-- **`analyzeAndModifyExpr`, as translated from the source, is `evE`.** For every expression
    node: one step of the translated walker, recursive calls answered by the model, yields the
    model's events for the abstracted node. -/
theorem analyzeAndModifyExpr_is_evE (e : GExpr) :
    (unfold Walker.analyzeAndModifyExpr (.expr e)).map expand = some (evE (abstrE e)) := by
  cases e with
  | funcLit p e lb rb list =>
    cases list with
    | nil => simp [Walker.analyzeAndModifyExpr]
    | cons s ss => cases h : p == e <;> simp [Walker.analyzeAndModifyExpr, h]
  | call p e fn args => cases args <;> simp [Walker.analyzeAndModifyExpr]
  | composite p e typ elts =>
    cases elts with
    | nil => simp [Walker.analyzeAndModifyExpr]
    | cons x xs =>
      simp [Walker.analyzeAndModifyExpr, expand_recE_each, ↓evalA_each GVal.expr (x :: xs) fun y => [Item.recE [y]]]
  | structType p e fts =>
    simp [Walker.analyzeAndModifyExpr, expand_recE_each, ↓evalA_each GVal.field fts fun y => [Item.recE [y]]]
  | _ => simp [Walker.analyzeAndModifyExpr]

/-- go/ast schema: the `Else` of an `if` is an `if` or a block -/
def elseOK : GStmt → Bool
  | .ifS _ _ _ _ _ _ _ _ (some (.ifS ..)) => true
  | .ifS _ _ _ _ _ _ _ _ (some (.block ..)) => true
  | .ifS _ _ _ _ _ _ _ _ (some _) => false
  | _ => true

/-- what the `*ast.DeclStmt` arm emits for one spec of a declaration at line `l` -/
def specItems (l : Nat) : GSpec → List Item
  | .valueSpec _ vs => if vs.isEmpty then [] else [.ev (.check l)]
  | .otherSpec _ => []

theorem expand_specItems (l : Nat) (specs : List GSpec) :
    expand (specs.flatMap (specItems l)) = List.replicate (countValued specs) (Ev.check l) := by
  induction specs with
  | nil => rfl
  | cons sp r ih =>
    simp only [List.flatMap_cons, expand_append, ih]
    cases sp with
    | valueSpec t vs => cases vs <;> simp [specItems, countValued, expand, Nat.add_comm 1, List.replicate_succ]
    | otherSpec cs => simp [specItems, countValued, expand]

/-- the body of the `range decl.Specs` loop of the `*ast.DeclStmt` arm, for one spec. The fragment is the translator's
    output, variable name included (as in `evalCL_clauseBody`, `evalCL_elseBlock`): a change there shows here first. -/
theorem evalL_declBody (g : GStmt) (sp : GSpec) :
    evalL { root := .stmt g, vars := [("$spec", .spec sp)] }
      [.tswitch ["$spec"] [(["ValueSpec"], [.guard (.nonEmpty ["$spec", "Values"]) [.check []]])]]
      = some (specItems g.line sp, false) := by
  cases sp with
  | valueSpec t vs => cases vs <;> simp [specItems]
  | otherSpec cs => simp [specItems]

/-- **`processStatements`, as translated from the source, is `evS`.** For every statement node
    (whose `Else`, if any, is an `if` or a block — the go/ast schema): one step of the translated
    walker, recursive calls answered by the model, yields the model's events for the abstracted
    node. -/
theorem processStatements_is_evS (g : GStmt) (hok : elseOK g = true) :
    (unfold Walker.processStatements (.stmt g)).map expand = some (evS (abstrS g)) := by
  cases g with
  | exprS l c e x =>
    -- the arm up to its switch on `x`, then the kinds of `x`
    simp [Walker.processStatements, -GExpr.kind, -abstrS, -Option.map_eq_some_iff]
    cases x with
    | call p e' fn args => cases args <;> simp
    | _ => simp
  | declS l c e specs =>
    simp [Walker.processStatements, expand_specItems,
      ↓evalA_each GVal.spec specs (specItems l), evalL_declBody (.declS l c e specs)]
  | ifS l c e init cond lb rb body els =>
    cases els with
    | none => simp [Walker.processStatements]
    | some s => cases s <;> simp [Walker.processStatements, elseOK] at hok ⊢
  | _ => simp [Walker.processStatements]

/-- list level: the walk of a statement list is the concatenation of the element steps -/
theorem processStatements_list (l : List GStmt) (hok : ∀ g ∈ l, elseOK g = true) :
    some (evL (abstrL l)) = (l.mapM fun g => (unfold Walker.processStatements (.stmt g)).map expand).map List.flatten := by
  rw [mapM_some (fun g => evS (abstrS g)) l fun g hg => processStatements_is_evS g (hok g hg)]
  clear hok
  induction l with
  | nil => rfl
  | cons g r ih => simpa using ih

/-! non-vacuity: the translated walkers evaluate on concrete nodes (kernel evaluation) -/

/-- `if c { return } else { x++ }` on lines 3–7: the body's return and the else block's statement -/
example : (unfold Walker.processStatements
      (.stmt (.ifS 3 2 7 none (.other 3 3 []) 3 5 [.ret 4 3 4 []] (some (.block 5 4 7 [.otherS 6 3 6 []]))))).map expand
    = some [.check 4, .check 6] := by
  rw [processStatements_is_evS _ rfl]; rfl

/-- `x := func() int { return 1 }` on one line: check of the assignment, single-line insert at the body's first statement -/
example : (unfold Walker.processStatements
      (.stmt (.assign 9 2 9 [.other 9 9 []] [.funcLit 9 9 9 9 [.ret 9 21 9 []]]))).map expand
    = some [.check 9, .single 9 21] := by
  rw [processStatements_is_evS _ rfl]; rfl

/-- `var a, b = 1, func() {…}` next to a spec without values: one check per valued spec -/
example : (unfold Walker.processStatements
      (.stmt (.declS 5 2 8 [.valueSpec none [.other 5 5 []], .valueSpec none [], .valueSpec none [.other 7 7 []]]))).map expand
    = some [.check 5, .check 5] := by
  rw [processStatements_is_evS _ rfl]; rfl

theorem ctlS_split (ch : Nat → Bool) (s : Stmt) : ctlS ch s = ctlHead ch s ++ ctlKids ch s :=
  ctlS_eq ch s

theorem abstrL_eq (l : List GStmt) : abstrL l = l.map abstrS := by
  induction l with
  | nil => rfl
  | cons x xs ih => rw [abstrL, ih, List.map_cons]

theorem abstrL_isEmpty (l : List GStmt) : (abstrL l).isEmpty = l.isEmpty := by
  rw [abstrL_eq, List.isEmpty_map]

/-- `clauseForces` for one clause (`clauseForces_flatMap`) -/
def clauseForce1 : Stmt → List Ev
  | .caseC _ _ _ _ colon body => if body.isEmpty then [] else [Ev.force (colon + 1)]
  | _ => []

theorem clauseForces_flatMap (l : List Stmt) : clauseForces l = l.flatMap clauseForce1 := by
  induction l with
  | nil => rfl
  | cons x xs ih => cases x <;> simp [clauseForces, clauseForce1, ih]

/-- so that `ctlHead`, `clauseForce1` and `elseForce` reduce on an `ExprStmt` without a split on whether `X` is a call -/
theorem abstrS_exprS (l c e : Nat) (x : GExpr) : ∃ k pre ent, abstrS (.exprS l c e x) = .simple k l e pre ent [] := by
  cases x <;> exact ⟨_, _, _, rfl⟩

/-- the body of the `range n.Body.List` loop of the switch arms, for one clause -/
theorem evalCL_clauseBody (ch : Nat → Bool) (root : GVal) (b : Bool) (x : GStmt) :
    evalCL ch { root := root, vars := [("$subStmt", .stmt x)] } b
      [.guard (.and (.isKind ["$subStmt"] "CaseClause") (.nonEmpty ["$subStmt", "Body"])) [.force ["$subStmt"] "Colon"]]
      = some (clauseForce1 (abstrS x), b, false) := by
  -- resolves the variable (`startsWith "$"`, the lookup) and leaves the test on the kind of `x`
  simp only [evalCL_cons, evalCA, evalC, Ctx.resolve, resolveFrom, kind_stmt, get_stmt, List.lookup,
    String.startsWith_string_iff, String.reduceToList, List.cons_prefix_cons, List.nil_prefix,
    and_true, ↓reduceIte, beq_self_eq_true, Option.getD_some]
  cases x with
  | exprS l c e y => obtain ⟨k, pre, ent, h⟩ := abstrS_exprS l c e y; rw [h]; simp [clauseForce1]
  | caseC l c e list colon body => cases body <;> simp [clauseForce1]
  | _ => simp [clauseForce1]

/-- the `Else` part of the `*ast.IfStmt` arm when there is an `Else` (used as `↓evalCL_elseBlock ch _ _ s`: `simp`
    discharges `h` by evaluating the field) -/
theorem evalCL_elseBlock (ch : Nat → Bool) (b : Bool) (c : Ctx) (s : GStmt) (h : c.root.get "Else" = .stmt s) :
    evalCL ch c b [.guard (.and (.isKind ["Else"] "BlockStmt") (.nonEmpty ["Else", "List"])) [.force ["Else"] "Lbrace"]]
      = some (elseForce [abstrS s], b, false) := by
  simp only [evalCL_cons, evalCA, evalC, Ctx.resolve, resolveFrom, h, kind_stmt, get_stmt,
    String.startsWith_string_iff, String.reduceToList, List.cons_prefix_cons, Char.reduceEq, List.nil_prefix,
    and_true, ↓reduceIte]
  cases s with
  | exprS l c e x => obtain ⟨k, pre, ent, h⟩ := abstrS_exprS l c e x; rw [h]; simp
  | block l c e list => cases list <;> simp
  | _ => simp

/-- **`processControlStatements`, as translated from the source, forces exactly the model's marks.**
    For every statement node the callback of the `ast.Inspect` pass — the arm selected by the
    type switch, the `changed` computation over the header parts, the forced marks — yields the
    model's own forced marks `ctlHead` of the abstracted node (`ctlS = ctlHead ++ ctlKids`,
    `ctlS_split`; the visit of the children is go/ast's traversal). -/
theorem processControlStatements_is_ctlHead (ch : Nat → Bool) (g : GStmt) :
    inspect Walker.processControlStatements ch (.stmt g) = some (ctlHead ch (abstrS g)) := by
  cases g with
  | exprS l c e x => obtain ⟨k, pre, ent, h⟩ := abstrS_exprS l c e x; rw [h]; simp [Walker.processControlStatements]
  | ifS l c e init cond lb rb body els =>
    cases els with
    | none => simp [Walker.processControlStatements]
    | some s => simp [Walker.processControlStatements, ↓evalCL_elseBlock ch _ _ s]
  | switchS l c e init tag lb rb cl | typeSwitchS l c e init asg lb rb cl =>
    simp [Walker.processControlStatements, ↓evalCL_clauseBody, clauseForces_flatMap, abstrL_eq, List.flatMap_map,
      ↓evalCA_each GVal.stmt cl fun x => clauseForce1 (abstrS x)]
  | caseC l c e list colon body => cases list <;> simp [Walker.processControlStatements]
  | _ => simp [Walker.processControlStatements]

/-- `ast.Inspect` calls the callback on expression nodes too: no arm matches them -/
theorem processControlStatements_expr (ch : Nat → Bool) (e : GExpr) :
    inspect Walker.processControlStatements ch (.expr e) = some [] := by
  cases e <;> simp [Walker.processControlStatements]

/-- the model's control pass on an abstracted statement: the translated callback on the node itself,
    then go/ast's visit of the children -/
theorem ctlS_is_callback_then_children (ch : Nat → Bool) (g : GStmt) :
    some (ctlS ch (abstrS g)) = (inspect Walker.processControlStatements ch (.stmt g)).map (· ++ ctlKids ch (abstrS g)) := by
  rw [processControlStatements_is_ctlHead, ctlS_split]; rfl

/-- non-vacuity: `switch x { case 1: a(); case 2: }` with a changed `switch` line forces the first
    clause only (the second has no body); an unchanged header forces nothing -/
example : inspect Walker.processControlStatements (fun l => l == 3)
      (.stmt (.switchS 3 2 8 none (some (.other 3 3 [])) 3 8
        [.caseC 4 2 5 [.other 4 4 []] 4 [.otherS 5 3 5 []], .caseC 6 2 6 [.other 6 6 []] 6 []]))
    = some [.force 5] := by
  rw [processControlStatements_is_ctlHead]; rfl

example : inspect Walker.processControlStatements (fun _ => false)
      (.stmt (.switchS 3 2 8 none (some (.other 3 3 [])) 3 8
        [.caseC 4 2 5 [.other 4 4 []] 4 [.otherS 5 3 5 []]]))
    = some [] := by
  rw [processControlStatements_is_ctlHead]; rfl

/-- **`addStmts`, as translated from the source, produces `declEvents`.** For every top-level
    declaration: the arm selected by the type switch — the single-line test on the body braces, the
    statement walk, then the control pass (function declarations); the two passes over global value
    specs (general declarations) — with the walker calls answered by the model, yields the model's
    event list of the abstracted declaration, in the model's order. -/
theorem addStmts_is_declEvents (ch : Nat → Bool) (d : GDecl) :
    (unfold Walker.addStmts (.decl d)).map (expandD ch) = some (declEvents ch (abstrD d)) := by
  cases d with
  | funcDecl body =>
    cases body with
    | none => simp [Walker.addStmts]
    | some b =>
      obtain ⟨lb, rb, list⟩ := b
      cases list with
      | nil => simp [Walker.addStmts]
      | cons s0 ss => cases h : lb == rb <;> simp [Walker.addStmts, h]
  | genDecl specs => simp [Walker.addStmts]
  | otherDecl => simp [Walker.addStmts, outerEs]

/-- **`Mark.fileEvents` is what the source says**: for every file (its line table and positions are
    irrelevant here) whose declarations are the abstractions of go/ast declarations `ds`, the event
    list the model folds over is the concatenation, in order, of the translated `addStmts` steps -/
theorem fileEvents_is_source (ch : Nat → Bool) (f : File) (ds : List GDecl) (hf : f.decls = ds.map abstrD) :
    (ds.mapM fun d => (unfold Walker.addStmts (.decl d)).map (expandD ch)).map List.flatten = some (fileEvents ch f) := by
  rw [mapM_some (fun d => declEvents ch (abstrD d)) ds fun d _ => addStmts_is_declEvents ch d]
  simp [fileEvents, hf, List.flatMap_def, List.map_map, Function.comp_def]

/-- non-vacuity: a one-line function body gets the single-line insert AND is walked; a body-less
    declaration and an empty body produce nothing -/
example : (unfold Walker.addStmts (.decl (.funcDecl (some (4, 4, [.ret 4 14 4 []]))))).map (expandD (fun _ => false))
    = some [.single 4 14, .check 4] := by
  rw [addStmts_is_declEvents]; rfl

example : (unfold Walker.addStmts (.decl (.funcDecl none))).map (expandD (fun _ => true)) = some [] := by
  rw [addStmts_is_declEvents]; rfl

def isLit : GExpr → Bool
  | .funcLit .. => true
  | _ => false

mutual
theorem outerG_lits : ∀ (e : GExpr), ∀ g ∈ outerG e, isLit g = true
  | .funcLit .., g, h => by cases List.mem_singleton.1 h; rfl
  | .call _ _ fn args, g, h => (List.mem_append.1 h).elim (outerG_lits fn g) (outerGs_lits args g)
  | .composite _ _ typ elts, g, h => (List.mem_append.1 h).elim (outerGo_lits typ g) (outerGs_lits elts g)
  | .keyValue _ _ k v, g, h => (List.mem_append.1 h).elim (outerG_lits k g) (outerG_lits v g)
  | .unary _ _ x, g, h => outerG_lits x g h
  | .structType _ _ l, g, h | .other _ _ l, g, h => outerGs_lits l g h
theorem outerGo_lits : ∀ (o : Option GExpr), ∀ g ∈ outerGo o, isLit g = true
  | none => List.forall_mem_nil _
  | some e => outerG_lits e
theorem outerGs_lits : ∀ (es : List GExpr), ∀ g ∈ outerGs es, isLit g = true
  | [] => List.forall_mem_nil _
  | e :: r => fun g h => (List.mem_append.1 h).elim (outerG_lits e g) (outerGs_lits r g)
end

mutual
theorem outerE_abstr : ∀ (e : GExpr), outerE (abstrE e) = (outerG e).map abstrE
  | .funcLit p e lb rb list => by simp [abstrE, outerE, outerG]
  | .call _ _ fn args => by
    simp only [abstrE, outerE, outerG, outerEs, List.append_nil, List.map_append, outerE_abstr fn, outerEs_abstr args]
  | .composite _ _ typ elts => by
    simp only [abstrE, outerE, outerG, List.map_append, outerEo_abstr typ, outerEs_abstr elts]
  | .keyValue _ _ k v => by
    simp only [abstrE, outerE, outerG, outerEs, List.append_nil, List.map_append, outerE_abstr k, outerE_abstr v]
  | .unary _ _ x => by simp only [abstrE, outerE, outerG, outerEs, List.append_nil, outerE_abstr x]
  | .structType _ _ l | .other _ _ l => by simp only [abstrE, outerE, outerG, outerEs_abstr l]
theorem outerEo_abstr : ∀ (o : Option GExpr), outerEs (abstrOE o) = (outerGo o).map abstrE
  | none => by simp [abstrOE, outerEs, outerGo]
  | some e => by simp only [abstrOE, outerEs, outerGo, List.append_nil, outerE_abstr e]
theorem outerEs_abstr : ∀ (es : List GExpr), outerEs (abstrEs es) = (outerGs es).map abstrE
  | [] => by simp [abstrEs, outerEs, outerGs]
  | e :: r => by simp only [abstrEs, outerEs, outerGs, List.map_append, outerE_abstr e, outerEs_abstr r]
end

/-- the FuncLit arm of `processGlobalValueSpecs` on one literal: the single-line test on the body
    braces, else the statement walk -/
theorem globalSpecs_arm (g : GExpr) (hg : isLit g = true) :
    ∃ is b, evalL ⟨.expr g, []⟩ Walker.processGlobalValueSpecs.arm = some (is, b) ∧ expand is = globalLitEvents (abstrE g) := by
  cases g with
  | funcLit p e lb rb list =>
    cases list with
    | nil => simp [Walker.processGlobalValueSpecs, globalLitEvents]
    | cons s0 ss => cases h : lb == rb <;> simp [Walker.processGlobalValueSpecs, globalLitEvents, h]
  | _ => cases hg

/-- the FuncLit arm of `processGlobalFunctionLit` on one literal: the control pass over its body -/
theorem globalLits_arm (ch : Nat → Bool) (g : GExpr) (hg : isLit g = true) :
    ∃ is b, evalL ⟨.expr g, []⟩ Walker.processGlobalFunctionLit.arm = some (is, b) ∧ expandD ch is = globalLitCtl ch (abstrE g) := by
  cases g with
  | funcLit p e lb rb list => simp [Walker.processGlobalFunctionLit, globalLitCtl]
  | _ => cases hg

/-- a pass over outermost literals, given what its arm does on one literal (`harm`) -/
theorem litPassOn_spec {acts : List Act} (ex : Item → List Ev) (f : Expr → List Ev)
    (harm : ∀ g, isLit g = true → ∃ is b, evalL ⟨.expr g, []⟩ acts = some (is, b) ∧ is.flatMap ex = f (abstrE g))
    {l : List GExpr} (hl : ∀ g ∈ l, isLit g = true) :
    ∃ is, litPassOn acts l = some is ∧ is.flatMap ex = (l.map abstrE).flatMap f := by
  induction l with
  | nil => exact ⟨[], rfl, rfl⟩
  | cons g r ih =>
    obtain ⟨hg, hr⟩ := List.forall_mem_cons.mp hl
    obtain ⟨is, b, h1, h2⟩ := harm g hg
    obtain ⟨js, h3, h4⟩ := ih hr
    exact ⟨is ++ js, by simp [litPassOn, h1, h3], by simp [h2, h4]⟩

/-- **`processGlobalValueSpecs`, as translated from the source**, yields the model's events of the
    outermost function literals of the value specs' initialisers -/
theorem processGlobalValueSpecs_is_model (specs : List GSpec) :
    ∃ is, litPass Walker.processGlobalValueSpecs specs = some is ∧
      expand is = (outerEs (abstrEs (specValues specs))).flatMap globalLitEvents := by
  rw [outerEs_abstr]
  exact litPassOn_spec expandItem globalLitEvents globalSpecs_arm (outerGs_lits _)

/-- **`processGlobalFunctionLit`, as translated from the source**, runs the control pass over the body
    of every outermost function literal -/
theorem processGlobalFunctionLit_is_model (ch : Nat → Bool) (specs : List GSpec) :
    ∃ is, litPass Walker.processGlobalFunctionLit specs = some is ∧
      expandD ch is = (outerEs (abstrEs (specValues specs))).flatMap (globalLitCtl ch) := by
  rw [outerEs_abstr]
  exact litPassOn_spec (expandItemD ch) (globalLitCtl ch) (globalLits_arm ch) (outerGs_lits _)

end GoatSpec.WalkerTie
