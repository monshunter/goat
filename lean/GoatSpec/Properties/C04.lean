import GoatSpec.Proofs.Diff
/-! # C04 — diff analysis never misses an added or modified line

  Theorems about the model of the diff stage (GoatSpec.Diff), for **all** chunk lists, flag
  vectors, commit tables and slot arrays (induction, nothing bounded).  go-git is not modelled:
  A4 (chunks concatenate to the two blobs) is the *shape* of `walk_sound` (old/new are defined as
  those concatenations), A5 enters `walk_bound` as "first and last chunk are Equal", A6 (blame
  faithfulness) is an explicit hypothesis of `blame_sound_ancestry`.  The three assumptions are
  monitored on every generated case by `judge:diff` (streams diff-pairs, diff-histories). -/
namespace GoatSpec.C04
open GoatSpec GoatSpec.Diff

/-- **precision 2/3 never misses a line** — for every chunk list whose chunks are whole lines, with
    `old` = concatenation of the non-Add chunks and `new` = concatenation of the non-Delete chunks:
    the ranges `getLineChange` reports are sorted, pairwise disjoint and inside `1 .. |new|`; the
    unreported lines of `new`, in order, are exactly the lines of the Equal chunks; and those form a
    subsequence of `old`. -/
theorem walk_sound {α : Type} (cs : List (LChunk α)) :
    rangesWF 1 (newOf cs).length (getLineChange true true (num cs)) = true ∧
    unreported (getLineChange true true (num cs)) (newOf cs) = eqOf cs ∧
    (eqOf cs).Sublist (oldOf cs) :=
  ⟨by simpa [addFlags_length] using (walk_cov 0 (num cs)).wf, (walk_lines cs).1, eqOf_sublist_old cs⟩

/-- the property's wording: the unreported lines of the new file, in order, occur in the same order
    in the old file — hence no added or modified line is missed -/
theorem walk_never_misses {α : Type} (cs : List (LChunk α)) :
    (unreported (getLineChange true true (num cs)) (newOf cs)).Sublist (oldOf cs) :=
  (walk_lines cs).1 ▸ eqOf_sublist_old cs

theorem walk_reports_added {α : Type} (cs : List (LChunk α)) :
    reported (getLineChange true true (num cs)) (newOf cs) = addOf cs :=
  (walk_lines cs).2

/-- **identical ⇒ not reported**: only Equal chunks ⇒ no range at all, the file is dropped by
    `analyzeChange` at precision 2 and 3 -/
theorem walk_identical (cs : List NChunk) (h : ∀ c ∈ cs, c.1 = Kind.eq) (elig : Bool) :
    getLineChange true true cs = [] ∧ analyzeV2 elig true true cs = none ∧ analyzeV3 elig .modify cs = none := by
  have hg : getLineChange true true cs = [] := walk_eq_nil 0 cs (fun c hc => by simp [h c hc])
  cases elig <;> simp [analyzeV2, analyzeV3, hg]

/-- **bound**: if the first and the last chunk are Equal (A5: diffmatchpatch trims the common
    leading and trailing lines into them), the number of reported lines is at most
    `|new| − |first| − |last|` -/
theorem walk_bound {α : Type} (first last : List α) (mid : List (LChunk α)) :
    let cs := (Kind.eq, first) :: mid ++ [(Kind.eq, last)]
    rangeLines (getLineChange true true (num cs)) + first.length + last.length ≤ (newOf cs).length := by
  intro cs
  rw [getLineChange_walk, rangeLines_walk]; exact added_le first last mid

/-- the same bound on the reported lines themselves -/
theorem walk_bound_reported {α : Type} (first last : List α) (mid : List (LChunk α)) :
    let cs := (Kind.eq, first) :: mid ++ [(Kind.eq, last)]
    (reported (getLineChange true true (num cs)) (newOf cs)).length + first.length + last.length ≤ (newOf cs).length := by
  intro cs
  rw [walk_reports_added]; exact added_le first last mid

/-- **a file new to the revision is reported in full**: `from = nil` ⇒ one range `(1, |new|)`,
    well-formed, leaving no line unreported -/
theorem newfile_full {α : Type} (cs : List (LChunk α)) (h : ∀ c ∈ cs, c.1 = Kind.add) :
    getLineChange false true (num cs) = [(1, (newOf cs).length)] ∧
    rangesWF 1 (newOf cs).length (getLineChange false true (num cs)) = true ∧
    unreported (getLineChange false true (num cs)) (newOf cs) = [] := by
  rw [getLineChange_new, totalNewlines_num cs h]
  exact ⟨rfl, rangesWF_whole, whole_unreported (Nat.le_refl _)⟩

/-- **the blame loop outputs exactly the maximal runs of `{i | isNew i}`** — for every flag vector:
    non-empty ranges, sorted, separated by at least one unflagged line, inside `1 .. n`
    (`runsWF`), and line `j` is covered iff its flag is set. -/
theorem blame_runs (flags : List Bool) :
    runsWF 1 flags.length (blameRanges flags) ∧
    rangesWF 1 flags.length (blameRanges flags) = true ∧
    (∀ j, covered (blameRanges flags) j = (decide (1 ≤ j) && flags.getD (j - 1) false)) := by
  obtain ⟨c, w⟩ := blameRanges_spec flags
  refine ⟨w, runsWF_rangesWF w, fun j => ?_⟩
  cases j with
  | zero => exact c.below 0 (Nat.le_refl 0)
  | succ k => simpa [Nat.add_comm 1 k] using c.flag k

theorem blame_partition {α : Type} (flags : List Bool) (ls : List α) (h : ls.length = flags.length) :
    unreported (blameRanges flags) ls = pick false ls flags ∧ reported (blameRanges flags) ls = pick true ls flags :=
  (blameRanges_spec flags).1.lines ls (Nat.le_of_eq h)

/-- **precision 1 never misses a line (fixed rule, under A6)**.  `blame` = the commit go-git blames
    each line of the new file to; every blamed commit is in the table (`loadCommits` loads every
    commit object).  A6, the explicit hypothesis: the lines blamed to the old revision or one of its
    ancestors (`anc` decides reachability through parent links) occur, in order, in the old version
    of the file.  Then the lines precision 1 leaves unreported form a subsequence of the old file. -/
theorem blame_sound_ancestry {α : Type} (t : Table) (old : Nat) (blame : List Nat) (new oldLines : List α)
    (hlen : new.length = blame.length)
    (hknown : ∀ h ∈ blame, (lookup t h).isSome = true)
    (anc : Nat → Bool) (hanc : ∀ h, anc h = true ↔ Reach t old h)
    (A6 : (pick false new (blame.map (fun h => !anc h))).Sublist oldLines) :
    ∀ rs, v1Ranges (isNewAncestry t old) new.length blame = some rs →
      rangesWF 1 new.length rs = true ∧ (unreported rs new).Sublist oldLines := by
  intro rs hrs
  rw [hlen, v1Ranges_eq, Option.some.injEq] at hrs
  subst hrs
  refine ⟨by simpa [hlen] using (blame_runs (blame.map (isNewAncestry t old))).2.1, ?_⟩
  rw [(blame_partition _ new (by simp [hlen])).1]
  -- a line the ancestry rule does not call new is blamed to an ancestor-or-self of old
  refine (pick_false_sublist new blame fun h hh hn => ?_).trans A6
  cases hi : isNewAncestry t old h
  · simp [(hanc h).mpr (not_new_is_ancestor t old h (hknown h hh) hi)] at hn
  · rfl

/-- *witness*: the rule of the unchanged tree (committer timestamps) calls a merged feature commit
    that is older than the stable tip "old", and so does it with a later commit of the same second;
    the ancestry rule calls both new.  Table of the pull-request history found by diff-histories
    (C04_phase1_violation.txt): 0 ← 1 (feature, t=10), 0 ← 2 (stable tip, t=1100), merge 3 = (2,1). -/
theorem timestamp_rule_misses :
    let t : Table := [⟨0, 0, []⟩, ⟨1, 10, [0]⟩, ⟨2, 1100, [0]⟩, ⟨3, 5100, [2, 1]⟩]
    isNewTimestamp t 2 1100 1 = false ∧ isNewAncestry t 2 1 = true ∧
    (let s : Table := [⟨0, 7, []⟩, ⟨1, 7, [0]⟩]
     isNewTimestamp s 0 7 1 = false ∧ isNewAncestry s 0 1 = true) := by decide

/-- **INIT reports the whole file**: one range `(1, len(strings.Split(content,"\n")))`, in bounds of
    the instrumenter's array, covering every line of the file -/
theorem init_full (content : List Char) {α : Type} (ls : List α) (h : ls.length ≤ (splitNL content).length) :
    rangesWF 1 (splitNL content).length [initRange content] = true ∧ unreported [initRange content] ls = [] :=
  ⟨rangesWF_whole, whole_unreported h⟩

/-- `strings.Split(content, "\n")` has one element more than there are newline characters -/
theorem splitNL_length (content : List Char) : (splitNL content).length = (content.filter (· == '\n')).length + 1 := by
  fun_induction splitNL content with
  | case1 => rfl
  | case2 c r h ih => rw [h] at ih; cases ih
  | case3 c r x xs h hc ih | case4 c r x xs h hc ih => rw [h] at ih; simpa [hc] using ih

/-- INIT reports every walked file other than the generated one, in full -/
theorem init_all_files (gen : String) (files : List (String × List Char)) (p : String) (c : List Char)
    (h : (p, c) ∈ files) (hp : p ≠ gen) : (p, [initRange c]) ∈ initChanges gen files := by
  simp only [initChanges, List.mem_map, List.mem_filter]
  exact ⟨(p, c), ⟨h, by simpa using hp⟩, rfl⟩

/-- **compaction keeps exactly the non-nil entries** (as a multiset; the order is not preserved) -/
theorem filter_sound {α : Type} (l : List (Option α)) : (filterValid l).Perm (l.filterMap id) :=
  filterGo_perm l.length l (Nat.le_refl _)

/-- **the executor's sort canonicalises**: two lists with the same entries and pairwise distinct
    paths sort to the same list -/
theorem sort_canonical {β : Type} (l1 l2 : List (String × β)) (hp : l1.Perm l2) (hn : (l1.map (·.1)).Nodup) :
    sortByPath l1 = sortByPath l2 :=
  eq_of_perm_of_sorted hn (sortByPath_perm l1) ((sortByPath_perm l2).trans hp.symm)
    (sortByPath_sorted l1) (sortByPath_sorted l2)

/-- **the sorted result is independent of the compaction order**: the swap-to-end compaction
    followed by the sort equals the order-preserving compaction followed by the sort (paths of the
    surviving entries pairwise distinct — go-git lists every path once).  Hence ids (numbered in
    this order, C05) do not depend on which slot a file occupied. -/
theorem numbering_perm {β : Type} (slots : List (Option (String × β)))
    (hn : ((slots.filterMap id).map (·.1)).Nodup) :
    sortByPath (filterValid slots) = sortByPath (slots.filterMap id) :=
  (sort_canonical _ _ (filter_sound slots).symm hn).symm

/-- **dispatch is total**: `getDiff` chooses INIT exactly for `oldBranch = "INIT"` (whatever the
    precision), otherwise precision 1/2/3, and refuses everything else -/
theorem dispatch_total (old : String) (p : Int) :
    (dispatch old p = .init ↔ old = "INIT") ∧
    (old ≠ "INIT" → (dispatch old p = .v1 ↔ p = 1) ∧ (dispatch old p = .v2 ↔ p = 2) ∧ (dispatch old p = .v3 ↔ p = 3) ∧
      (dispatch old p = .invalid ↔ p ≠ 1 ∧ p ≠ 2 ∧ p ≠ 3)) := by
  unfold dispatch
  by_cases h : old = "INIT"
  · simp [h]
  by_cases h1 : p = 1
  · simp [h, h1]
  by_cases h2 : p = 2
  · simp [h, h2]
  by_cases h3 : p = 3
  · simp [h, h3]
  · simp [h, h1, h2, h3]

/-- deleted files and ineligible paths never appear, at any precision -/
theorem never_appear (cs : List NChunk) (elig hf : Bool) (a : Action) (rs : List Range) :
    analyzeV2 elig hf false cs = none ∧ analyzeV2 false hf true cs = none ∧
    analyzeV3 elig .delete cs = none ∧ analyzeV3 false a cs = none ∧
    analyzeV1 elig .delete rs = none ∧ analyzeV1 false a rs = none := by
  refine ⟨by simp [analyzeV2], by simp [analyzeV2], rfl, by cases a <;> simp [analyzeV3], rfl, by cases a <;> simp [analyzeV1]⟩

example :
    let cs : List (LChunk String) := [(.eq, ["a"]), (.del, ["b"]), (.add, ["X"]), (.eq, ["c"]), (.add, ["Y", "Z"]), (.eq, ["d"])]
    getLineChange true true (num cs) = [(2, 1), (4, 2)] ∧ unreported [(2, 1), (4, 2)] (newOf cs) = ["a", "c", "d"] ∧
    oldOf cs = ["a", "b", "c", "d"] ∧ reported [(2, 1), (4, 2)] (newOf cs) = ["X", "Y", "Z"] := by decide
/-- the Add chunk with 0 newlines (unterminated last line): a range of 0 lines -/
example : getLineChange true true [(.eq, 1), (.del, 0), (.add, 0)] = [(2, 0)] := by decide
example : getLineChange false true [(.add, 0)] = [(1, 0)] := by decide
example : blameRanges [true, true, false, true, false, false, true] = [(1, 2), (4, 1), (7, 1)] := by decide
example : filterValid [none, some "a", none, some "b", some "c", none] = ["c", "a", "b"] := by decide
example : sortByPath [("c", 1), ("a", 2), ("b", 3)] = [("a", 2), ("b", 3), ("c", 1)] := by decide
example : initRange "a\nb\n".toList = (1, 3) := by decide
example : ancestors [⟨0, 0, []⟩, ⟨1, 10, [0]⟩, ⟨2, 1100, [0]⟩, ⟨3, 5100, [2, 1]⟩] 2 = [0, 2] := by decide
example : dispatch "INIT" 9 = .init ∧ dispatch "main" 2 = .v2 ∧ dispatch "main" 0 = .invalid := by decide
/-- the hypotheses of `blame_sound_ancestry` are satisfiable with a reported line -/
example : v1Ranges (isNewAncestry [⟨0, 0, []⟩, ⟨1, 10, [0]⟩, ⟨2, 1100, [0]⟩, ⟨3, 5100, [2, 1]⟩] 2) 3 [0, 1, 2] = some [(2, 1)] := by decide

end GoatSpec.C04
