import GoatSpec.Proofs.Splice
import GoatSpec.Text
/-! # C02 — instrumentation is purely additive (text level: `doInsert`, increment.go:109).

For every source, every sorted set of insert positions: the loop-faithful first pass equals
"a block before each position", removing the block lines gives the source back line by line, the
second pass only splits lines at a column (the characters of the user's lines are unchanged and
in order), and the hand-maintained `deltaArray` moves each single-line position by exactly the
lines inserted above it. go/printer's re-formatting and the import edit are below this model
(assumptions A2, A3; end-to-end oracle). -/
namespace GoatSpec.C02
open GoatSpec

/-- **first pass = specification** -/
theorem pass1_is_spec {α : Type} (block src : List α) (ps : List Nat) (h : Incr 1 ps) :
    pass1 block 0 src ps = spec1 block 0 src ps :=
  pass1_eq_spec1 block 0 src ps h

/-- **additivity of the first pass**: with block lines recognisable and no user line a block
    line, deleting the block lines from the output of the real loop gives the source back —
    no user line altered, dropped, duplicated or reordered. -/
theorem pass1_only_adds {α : Type} (block src : List α) (ps : List Nat) (h : Incr 1 ps)
    (isBlock : α → Bool) (hb : ∀ b ∈ block, isBlock b = true) (hs : ∀ s ∈ src, isBlock s = false) :
    (pass1 block 0 src ps).filter (fun x => !isBlock x) = src := by
  rw [pass1_is_spec block src ps h]
  exact spec1_filter block isBlock hb 0 src ps hs

/-- exactly one block per position inside the file -/
theorem pass1_block_count {α : Type} (block src : List α) (ps : List Nat) (h : Incr 1 ps)
    (hn : ∀ p ∈ ps, p ≤ src.length) :
    (pass1 block 0 src ps).length = src.length + block.length * ps.length :=
  pass1_length_zero block src ps h hn

/-- **deltaArray = counting specification**: every single-line position is moved down by
    `blockHeight · #{multi positions ≤ its line}` (loop-faithful model incl. early exit, pending
    slot, `-1` slots and prefix sums) -/
theorem shifts_spec (B n : Nat) (ms ss : List Nat) (hm : Incr 1 ms) (hs : Incr 1 ss)
    (hn : ∀ m ∈ ms, m ≤ n) : shifts B n ms ss = ss.map (fun s => B * cntLe ms s) := by
  simpa [shifts] using scan_spec B n 0 ms ss 0 0 hm hs (by simpa using hn)

/-- **second pass only splits lines**: when it does not panic, the concatenated characters of
    the output with the block lines taken out (pass 2 run with an empty block) are the
    concatenated characters of its input. -/
theorem pass2_chars (i : Nat) (src : List Line) (ps : List (Nat × Nat)) (out : List Line)
    (h : pass2 [] i src ps = some out) : out.flatten = src.flatten := by
  fun_induction pass2 [] i src ps generalizing out with
  | case1 | case2 => cases h; rfl
  | case3 s rest l c ps hc ih =>
    obtain ⟨r, hr, rfl⟩ := Option.map_eq_some_iff.mp h
    simp [ih r hr, ← List.append_assoc]
  | case4 => cases h
  | case5 i s rest l c ps hi ih =>
    obtain ⟨r, hr, rfl⟩ := Option.map_eq_some_iff.mp h
    simp [ih r hr]

/-- the block used by track is the extracted 4-line block: marker, tips, call, end; the
    service-start block of a main entry (`mainEntryInsertData_AL_7`) has 4 lines too, from a main
    marker to an end marker (re-checked against Extracted.lean on every run) -/
theorem block_shape :
    Extracted.packageInsertStmts.length = blockHeight
    ∧ startsMk .generate (Extracted.packageInsertStmts.headD []) = true
    ∧ startsMk .endm (Extracted.packageInsertStmts.getLastD []) = true
    ∧ (Extracted.packageInsertStmts.getD 2 []) = Extracted.trackStmtPlaceHolder
    ∧ (Extracted.packageInsertStmts.getD 1 []) = Extracted.trackTipsComment
    ∧ (Extracted.mainEntryInsertData_AL_7.length = 4
        ∧ startsMk .main (Extracted.mainEntryInsertData_AL_7.headD []) = true
        ∧ startsMk .endm (Extracted.mainEntryInsertData_AL_7.getLastD []) = true) := by
  decide

example : pass1 ["B"] 0 ["a", "b", "c"] [2, 3] = ["a", "B", "b", "B", "c"] := by decide
example : shifts 4 10 [2, 5] [2, 3, 9] = [4, 4, 8] := by decide
example : pass2 [['B']] 0 [['x', 'y', 'z']] [(1, 3)] = some [['x', 'y'], ['B'], ['z']] := by decide

end GoatSpec.C02
