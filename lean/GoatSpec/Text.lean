import GoatSpec.Basic
import GoatSpec.Extracted
/-! # GoatSpec.Text — line-level model of the marker regular expressions and of the
    clean / patch text passes (pkg/config/config.go regexps, pkg/goat/{goat,clean,patch}.go).

A text is `lines` (each terminated by `\n` in the real file) plus an unterminated `tail`
(what follows the last newline; `""` for a newline-terminated file). Every marker regexp has
the shape `(?m)^\s*MARK[^\n]*\n` or `(?m)^\s*MARK[^\n]*\n(?:.*\n)*?\s*END[^\n]*\n`; both can only
match whole newline-terminated lines, so the tail never takes part in a match. -/
namespace GoatSpec

/-- the marker kinds a line can start (after `^\s*`) -/
inductive Mk where | generate | delete | main | user | insert | endm
deriving DecidableEq, Repr

def Mk.text : Mk → Line
  | .generate => Extracted.trackGenerateComment
  | .delete => Extracted.trackDeleteComment
  | .main => Extracted.trackMainEntryComment
  | .user => Extracted.trackUserComment
  | .insert => Extracted.trackInsertComment
  | .endm => Extracted.trackEndComment

/-- the line, after `\s*`, starts with the marker text (prefix test: `[^\n]*` follows) -/
def startsMk (k : Mk) (l : Line) : Bool := (k.text).isPrefixOf (ltrim l)

/-- `afterEnd r` = the lines after the first end-marker line of `r` (lazy `(?:.*\n)*?\s*END[^\n]*\n`) -/
def afterEnd : List Line → Option (List Line)
  | [] => none
  | x :: r => if startsMk .endm x then some r else afterEnd r

/-- A match of the block regexp of kind `k` anchored at the start of the first line:
    `\s*` runs over blank lines, then a `k` start line, then lazily up to the first end line.
    Returns the remaining lines. -/
def matchBlock (k : Mk) : List Line → Option (List Line)
  | [] => none
  | x :: r =>
    if isBlank x then matchBlock k r
    else if startsMk k x then afterEnd r
    else none

/-- A match of the single-line regexp `(?m)^\s*MARK[^\n]*\n` anchored at the first line. -/
def matchLine (k : Mk) : List Line → Option (List Line)
  | [] => none
  | x :: r =>
    if isBlank x then matchLine k r
    else if startsMk k x then some r
    else none

/-- which regexp: block kinds have an end, `insert` is a single line -/
def matchAt (k : Mk) (l : List Line) : Option (List Line) :=
  match k with
  | .insert => matchLine k l
  | _ => matchBlock k l

theorem afterEnd_len {l r : List Line} (h : afterEnd l = some r) : r.length < l.length := by
  induction l with
  | nil => cases h
  | cons x t ih =>
    rw [afterEnd] at h
    split at h
    · cases h; exact Nat.lt_succ_self _
    · exact Nat.lt_succ_of_lt (ih h)

theorem matchBlock_len {k : Mk} {l r : List Line} (h : matchBlock k l = some r) : r.length < l.length := by
  induction l with
  | nil => cases h
  | cons x t ih =>
    rw [matchBlock] at h
    split at h
    · exact Nat.lt_succ_of_lt (ih h)
    · split at h
      · exact Nat.lt_succ_of_lt (afterEnd_len h)
      · cases h

theorem matchLine_len {k : Mk} {l r : List Line} (h : matchLine k l = some r) : r.length < l.length := by
  induction l with
  | nil => cases h
  | cons x t ih =>
    rw [matchLine] at h
    split at h
    · exact Nat.lt_succ_of_lt (ih h)
    · split at h
      · cases h; exact Nat.lt_succ_self _
      · cases h

theorem matchAt_len {k : Mk} {l r : List Line} (h : matchAt k l = some r) : r.length < l.length := by
  unfold matchAt at h
  split at h
  · exact matchLine_len h
  · exact matchBlock_len h

/-- `ReplaceAllStringFunc(re_k, text, _ ↦ repl)` together with the `FindAllString` count:
    leftmost, non-overlapping matches; the scan resumes after each match. -/
def pass (k : Mk) (repl : List Line) (l : List Line) : Nat × List Line :=
  match l with
  | [] => (0, [])
  | x :: r =>
    match h : matchAt k (x :: r) with
    | some rest => let p := pass k repl rest; (p.1 + 1, repl ++ p.2)
    | none => let p := pass k repl r; (p.1, x :: p.2)
termination_by l.length
decreasing_by
  · exact matchAt_len h
  · simp

/-- the tracking block written by `goat patch` for an insert marker and on reset:
    `GetPackageInsertDataString()` -/
def insertBlock : List Line := Extracted.packageInsertStmts

/-- `CleanExecutor.prepareContent` up to the import removal: the five passes in the code's
    order. Returns (changed, lines). -/
def cleanLines (l : List Line) : Bool × List Line :=
  let p1 := pass .delete [] l
  let p2 := pass .insert [] p1.2
  let p3 := pass .generate [] p2.2
  let p4 := pass .main [] p3.2
  let p5 := pass .user [] p4.2
  (p1.1 > 0 || p2.1 > 0 || p3.1 > 0 || p4.1 > 0 || p5.1 > 0, p5.2)

/-- does the generate regexp match anywhere (`FindAllStringIndex ≠ []`) -/
def hasGenerate (l : List Line) : Bool := (pass .generate [] l).1 > 0

/-- what the patch passes decide about the tracking import of one file -/
inductive ImportAct where | keep | add | delete
deriving DecidableEq, Repr

structure PatchFile where
  updated : Bool          -- the file is kept for renumbering / rewriting
  changed : Bool          -- contributes to PatchExecutor.changed
  lines : List Line
  /-- import actions in order (delete after the delete pass, add after the insert pass,
      delete after the main reset) -/
  imports : List ImportAct
deriving Repr

/-- `PatchExecutor.prepareContent` at line level (import edits recorded, not performed). -/
def patchLines (isMainEntry : Bool) (l : List Line) : PatchFile :=
  let p1 := pass .delete [] l
  let a1 := if p1.1 > 0 && !hasGenerate p1.2 then [ImportAct.delete] else []
  let p2 := pass .insert insertBlock p1.2
  let a2 := if p2.1 > 0 then [ImportAct.add] else []
  let p3 := pass .generate insertBlock p2.2
  let p4 := if isMainEntry then pass .main [] p3.2 else (0, p3.2)
  let a4 := if isMainEntry && p4.1 > 0 && !hasGenerate p4.2 then [ImportAct.delete] else []
  { updated := p1.1 > 0 || p2.1 > 0 || p3.1 > 0 || p4.1 > 0
    changed := p1.1 > 0 || p2.1 > 0
    lines := p4.2
    imports := a1 ++ a2 ++ a4 }

/-- the line is a tracking-call placeholder, which the block writes on a line of its own
    (`utils.Replace` finds one placeholder per such line) -/
def isPlaceholderLine (l : Line) : Bool := ltrim l == Extracted.trackStmtPlaceHolder

end GoatSpec
