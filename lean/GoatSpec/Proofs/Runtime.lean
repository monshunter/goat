import GoatSpec.RuntimeSpec
import GoatSpec.Proofs.Sort
/-! A status array is its length and its `get`, and a burst of `k` calls `Track(id)` moves slot `id` by the closed
form `upd` and nothing else: `track`, `run` and the bursts are read off these two. The handlers are specified for
`get st` of any status array `st`; the theorems of `Properties/C07.lean` are the case `st = run …`. In between:
a run depends on how often each id occurs only (`run_perm`, with `Interleave` for the atomic interleavings of C07 / C14),
and the report's `sortBy` is a sorted permutation. -/
namespace GoatSpec.Runtime

theorem get_set_self {st : Status} {i v : Nat} (h : i < st.length) : get (st.set i v) i = v := by
  simp [get, List.getElem?_set_self h]

theorem get_set_ne {st : Status} {i j v : Nat} (h : i ≠ j) : get (st.set i v) j = get st j := by
  simp [get, List.getElem?_set_ne h]

theorem get_of_length_le {st : Status} {i : Nat} (h : st.length ≤ i) : get st i = 0 := by
  simp [get, List.getElem?_eq_none h]

theorem get_initStatus (n i : Nat) : get (initStatus n) i = 0 := by
  simp only [get, initStatus, List.getD_eq_getElem?_getD, List.getElem?_replicate]
  split <;> rfl

theorem length_initStatus (n : Nat) : (initStatus n).length = n + 1 := by simp [initStatus]

theorem ext_get {a b : Status} (hl : a.length = b.length) (h : ∀ j, get a j = get b j) : a = b := by
  apply List.ext_getElem hl
  intro j h1 h2
  simpa [get, h1, h2] using h j

/-- `k` calls on a counter, closed form -/
def upd (m : Mode) (c k : Nat) : Nat :=
  if k = 0 then c else match m with
  | .bool => 1
  | .count => (c + k) % W

theorem upd_add (m : Mode) (c a b : Nat) : upd m (upd m c a) b = upd m c (a + b) := by
  unfold upd
  cases m <;> by_cases ha : a = 0 <;> by_cases hb : b = 0 <;> simp [ha, hb, Nat.add_assoc]

theorem length_trackN (m : Mode) (st : Status) (id : Int) (k : Nat) : (trackN m st id k).length = st.length := by
  unfold trackN
  split
  · rfl
  · split
    · cases m <;> exact List.length_set
    · rfl

theorem get_trackN (m : Mode) (st : Status) (id : Int) (k j : Nat) :
    get (trackN m st id k) j =
      if id = (j : Int) ∧ 0 < j ∧ j < st.length then upd m (get st j) k else get st j := by
  unfold trackN upd
  by_cases hk : k = 0
  · rw [if_pos hk, if_pos hk, ite_self]
  rw [if_neg hk, if_neg hk]
  by_cases hj : id = (j : Int) ∧ 0 < j ∧ j < st.length
  · obtain ⟨rfl, h0, hl⟩ := hj
    rw [if_pos ⟨Int.natCast_pos.mpr h0, Int.ofNat_lt.mpr hl⟩, if_pos ⟨rfl, h0, hl⟩, Int.toNat_natCast]
    cases m <;> exact get_set_self hl
  · rw [if_neg hj]
    split
    · have : id.toNat ≠ j := by omega
      cases m <;> exact get_set_ne this
    · rfl

theorem track_eq_trackN (m : Mode) (st : Status) (id : Int) : track m st id = trackN m st id 1 := by
  simp [track, trackN]

theorem length_track (m : Mode) (st : Status) (id : Int) : (track m st id).length = st.length := by
  rw [track_eq_trackN, length_trackN]

theorem get_track (m : Mode) (st : Status) (id : Int) (j : Nat) :
    get (track m st id) j =
      if id = (j : Int) ∧ 0 < j ∧ j < st.length then upd m (get st j) 1 else get st j := by
  rw [track_eq_trackN, get_trackN]

theorem length_run (m : Mode) (ops : List Int) : ∀ st : Status, (run m st ops).length = st.length := by
  induction ops with
  | nil => intro st; rfl
  | cons a r ih => intro st; exact (ih _).trans (length_track m st a)

theorem occ_cons (j : Nat) (a : Int) (r : List Int) :
    occ j (a :: r) = (if a = (j : Int) then 1 else 0) + occ j r := by
  simp only [occ, List.count_cons, beq_iff_eq, Nat.add_comm]

theorem get_run (m : Mode) (ops : List Int) : ∀ (st : Status) (j : Nat),
    get (run m st ops) j = if 0 < j ∧ j < st.length then upd m (get st j) (occ j ops) else get st j := by
  induction ops with
  | nil => intro st j; simp [run, occ, upd]
  | cons a r ih =>
    intro st j
    show get (run m (track m st a) r) j = _
    rw [ih, length_track, get_track, occ_cons]
    by_cases hr : 0 < j ∧ j < st.length <;> by_cases ha : a = (j : Int) <;>
      simp only [hr, ha, and_true, and_false, if_true, if_false, upd_add, Nat.zero_add]

theorem upd_zero_eq_expCount (m : Mode) (k : Nat) : upd m 0 k = expCount m k := by
  unfold upd expCount
  by_cases hk : k = 0
  · subst hk; cases m <;> rfl
  · rw [if_neg hk]
    cases m
    · exact (Nat.min_eq_left (Nat.pos_of_ne_zero hk)).symm
    · rw [Nat.zero_add]

theorem get_run_init (cfg : Cfg) (ops : List Int) (j : Nat) :
    get (run cfg.mode (initStatus cfg.n) ops) j = expStatus cfg ops j := by
  rw [get_run, get_initStatus, length_initStatus, upd_zero_eq_expCount, expStatus]
  congr 1; exact propext (by omega)

theorem expStatus_eq (cfg : Cfg) (ops : List Int) : expStatus cfg ops = get (run cfg.mode (initStatus cfg.n) ops) :=
  funext fun j => (get_run_init cfg ops j).symm

theorem run_init_eq (cfg : Cfg) (ops : List Int) :
    run cfg.mode (initStatus cfg.n) ops = (List.range (cfg.n + 1)).map (expStatus cfg ops) := by
  refine ext_get (by simp [length_run, initStatus]) fun j => ?_
  rw [get_run_init, get, List.getD_eq_getElem?_getD, List.getElem?_map]
  by_cases hj : j < cfg.n + 1
  · simp [List.getElem?_range hj]
  · have : ¬(1 ≤ j ∧ j ≤ cfg.n) := by omega
    simp [expStatus, hj, this]

theorem run_append (m : Mode) (st : Status) (a b : List Int) : run m st (a ++ b) = run m (run m st a) b :=
  List.foldl_append

theorem run_replicate (m : Mode) (id : Int) (k : Nat) (st : Status) :
    run m st (List.replicate k id) = trackN m st id k := by
  refine ext_get (by rw [length_run, length_trackN]) fun j => ?_
  rw [get_run, get_trackN, occ, List.count_replicate]
  by_cases h : id = (j : Int) <;> simp [h, upd]

theorem runN_eq (m : Mode) (ops : List (Int × Nat)) (st : Status) : runN m st ops = run m st (expand ops) := by
  simp only [runN, ← run_replicate, run, expand, List.foldl_flatMap]

theorem occN_eq (j : Nat) (ops : List (Int × Nat)) : occN j ops = occ j (expand ops) := by
  simp only [occN, occ, expand, List.count_flatMap, List.sum_eq_foldr, List.foldr_map, Function.comp_apply,
    List.count_replicate, beq_iff_eq]

theorem expStatusN_eq (cfg : Cfg) (ops : List (Int × Nat)) : expStatusN cfg ops = expStatus cfg (expand ops) := by
  funext id
  simp only [expStatusN, expStatus, occN_eq]

theorem run_perm (m : Mode) {l₁ l₂ : List Int} (p : l₁.Perm l₂) (st : Status) : run m st l₁ = run m st l₂ :=
  ext_get (by rw [length_run, length_run]) fun j => by rw [get_run, get_run, occ, occ, p.count_eq]

/-- `s` is an interleaving of the call lists `ls`; each call is one atomic step on the status array -/
inductive Interleave : List (List Int) → List Int → Prop where
  | done {ls : List (List Int)} : (∀ l ∈ ls, l = []) → Interleave ls []
  | step {ls : List (List Int)} {x : Int} {s : List Int} (i : Nat) (rest : List Int) :
      ls[i]? = some (x :: rest) → Interleave (ls.set i rest) s → Interleave ls (x :: s)

theorem Interleave.perm {ls : List (List Int)} {s : List Int} (h : Interleave ls s) : s.Perm ls.flatten := by
  induction h with
  | done hn => rw [List.flatten_eq_nil_iff.mpr hn]
  | step i rest hi _ ih => exact ((flatten_take_perm hi).trans (ih.symm.cons _)).symm

theorem insertBy_perm (le : Item → Item → Bool) (x : Item) (l : List Item) : (insertBy le x l).Perm (x :: l) :=
  Insertion.ins_perm (insertBy le) (fun _ => rfl) (fun _ _ _ => rfl) x l

theorem sortBy_perm (le : Item → Item → Bool) (l : List Item) : (sortBy le l).Perm l :=
  Insertion.sort_perm (insertBy le) (fun _ => rfl) (fun _ _ _ => rfl) l

theorem sortedBy_of_pairwise {le : Item → Item → Bool} :
    ∀ {l : List Item}, l.Pairwise (le · · = true) → sortedBy le l = true
  | [], _ => rfl
  | [_], _ => rfl
  | a :: b :: r, h => by
    rw [sortedBy, List.rel_of_pairwise_cons h (.head _), sortedBy_of_pairwise h.of_cons]; rfl

theorem keyLE_total (o : Nat) (a b : Item) : keyLE o a b = true ∨ keyLE o b a = true := by
  unfold keyLE
  split <;> simp only [decide_eq_true_eq] <;> exact Nat.le_total _ _

theorem keyLE_trans (o : Nat) {a b c : Item} : keyLE o a b = true → keyLE o b c = true → keyLE o a c = true := by
  unfold keyLE
  split <;> simp only [decide_eq_true_eq]
  · exact Nat.le_trans
  · exact fun h1 h2 => Nat.le_trans h2 h1
  · exact Nat.le_trans
  · exact fun h1 h2 => Nat.le_trans h2 h1

theorem sortedBy_sortBy_keyLE (o : Nat) (l : List Item) : sortedBy (keyLE o) (sortBy (keyLE o) l) = true :=
  sortedBy_of_pairwise
    (Insertion.sort_pairwise (insertBy (keyLE o)) (fun _ => rfl) (fun _ _ _ => rfl) (keyLE_total o) (keyLE_trans o) l)

theorem coveredCount_perm {l₁ l₂ : List Item} (p : l₁.Perm l₂) : coveredCount l₁ = coveredCount l₂ :=
  (p.filter _).length_eq

theorem coveredCount_map (f : Nat → Nat) (ids : List Nat) :
    coveredCount (ids.map (fun id => Item.mk id (f id))) = (ids.filter (fun id => decide (f id > 0))).length := by
  simp only [coveredCount, List.filter_map, List.length_map]
  rfl

theorem expRate_eq (n : Nat) {c : Nat} : (if n > 0 then c * 100 / n else 0) = expRate n c := by
  unfold expRate
  by_cases h : n = 0
  · simp [h]
  · simp [h, Nat.pos_of_ne_zero h]

theorem resultOK_iff (cfg : Cfg) (exp : Nat → Nat) (o c : Nat) (r : CompResult) :
    resultOK cfg exp o c r = true ↔
      r.id = c ∧ r.name = compName cfg c
      ∧ r.items.Perm ((compIds cfg c).map (fun id => Item.mk id (exp id)))
      ∧ r.total = (compIds cfg c).length
      ∧ r.covered = coveredCount r.items
      ∧ r.rate = expRate r.total r.covered
      ∧ sortedBy (keyLE o) r.items = true := by
  simp only [resultOK, Bool.and_eq_true, beq_iff_eq, List.isPerm_iff, and_assoc]

theorem compResult_ok (cfg : Cfg) (st : Status) (o c : Nat) :
    resultOK cfg (get st) o c (compResult cfg st o c) = true :=
  have hp : (compResult cfg st o c).items.Perm ((compIds cfg c).map (fun id => Item.mk id (get st id))) :=
    (sortBy_perm _ _).trans (sortBy_perm _ _)
  -- `compResult` counts `covered` on the items before the two sorts: `coveredCount` of the right side of `hp`, by `rfl`
  have hcov : (compResult cfg st o c).covered = coveredCount (compResult cfg st o c).items := (coveredCount_perm hp).symm
  -- id, name and total hold by `rfl`; the rate is the `if` that `expRate` restates
  (resultOK_iff ..).mpr ⟨rfl, rfl, hp, rfl, hcov, expRate_eq _, sortedBy_sortBy_keyLE o _⟩

theorem resultsOK_map (cfg : Cfg) (st : Status) (o : Nat) :
    ∀ cs : List Nat, resultsOK cfg (get st) o cs (cs.map (compResult cfg st o)) = true
  | [] => rfl
  | c :: r => by
    simp only [List.map_cons, resultsOK, Bool.and_eq_true]
    exact ⟨compResult_ok cfg st o c, resultsOK_map cfg st o r⟩

theorem trackHandler_ok (cfg : Cfg) (st : Status) (order component : Str) :
    trackOK cfg (get st) order component (trackHandler cfg st order component) = true := by
  unfold trackOK trackHandler
  cases resolveAll cfg.comps component with
  | none => rfl
  | some cs => exact resultsOK_map cfg st _ cs

theorem emitP_ok {f : Nat × Nat → Except Panic Row} {g : Nat × Nat → Row} :
    ∀ (l : List (Nat × Nat)) (out : List Row), (∀ x ∈ l, f x = .ok (g x)) →
      emitP f l out = .ok ((l.map g).reverse ++ out)
  | [], out, _ => by simp [emitP]
  | x :: r, out, h => by
    have ⟨hx, hr⟩ := List.forall_mem_cons.mp h
    simp only [emitP, hx, emitP_ok r (g x :: out) hr, List.map_cons, List.reverse_cons, List.append_assoc,
      List.singleton_append]

/-- value printed for component `c` under indicator `ind` (the three blocks of `expRows`) -/
def metricValue (cfg : Cfg) (st : Status) (ind : Ind) (c : Nat) : Nat :=
  match ind with
  | .total => (compIds cfg c).length
  | .covered => expCovered cfg (get st) c
  | .ratio => expRate (compIds cfg c).length (expCovered cfg (get st) c)

theorem rowFixed_ok (cfg : Cfg) (st : Status) (ts : List Nat) (ind : Ind) (x : Nat × Nat) (hx : x ∈ ts.zipIdx) :
    rowFixed cfg (ts.map (coveredOf cfg st)) (ts.map (fun c => (compIds cfg c).length)) ind x
      = .ok ⟨ind, compName cfg x.1, metricValue cfg st ind x.1⟩ := by
  -- `(c, i) ∈ ts.zipIdx` says `ts[i]? = some c`, so position `i` of both mapped slices holds `c`'s value
  have h := List.mem_zipIdx_iff_getElem?.mp hx
  cases ind <;> simp [rowFixed, metricValue, h, expRate_eq] <;> rfl

theorem map_zipIdx_fst {α β : Type} (h : α → β) (ts : List α) : ts.zipIdx.map (fun x => h x.1) = ts.map h :=
  (List.map_map (f := Prod.fst) (g := h)).symm.trans (congrArg _ (List.zipIdx_map_fst 0 ts))

/-- the fixed handler never panics and prints, for every target, total / covered / ratio -/
theorem metrics_eq (cfg : Cfg) (st : Status) (cur : Str) :
    metrics cfg st cur =
      match targets cfg cur with
      | none => .invalid
      | some ts => .ok (expRows cfg (get st) ts) := by
  unfold metrics
  cases targets cfg cur with
  | none => rfl
  | some ts =>
    have e : ∀ ind out, emitP (rowFixed cfg (ts.map (coveredOf cfg st)) (ts.map fun c => (compIds cfg c).length) ind)
        ts.zipIdx out = .ok ((ts.map fun c => (⟨ind, compName cfg c, metricValue cfg st ind c⟩ : Row)).reverse ++ out) :=
      fun ind out => by
        rw [← map_zipIdx_fst fun c => (⟨ind, compName cfg c, metricValue cfg st ind c⟩ : Row)]
        exact emitP_ok _ out (rowFixed_ok cfg st ts ind)
    simp only [fillFixed, indicators, emitAllP, e, List.reverse_append, List.reverse_reverse, List.append_nil,
      List.append_assoc, expRows, metricValue]

/-- `/metrics` prints the totals of `/track`, whatever the order asked there -/
theorem rowsOfResults_map (cfg : Cfg) (st : Status) (o : Nat) (ts : List Nat) :
    rowsOfResults (ts.map (compResult cfg st o)) = expRows cfg (get st) ts := by
  have hc : ∀ c, (compResult cfg st o c).covered = expCovered cfg (get st) c :=
    fun c => coveredCount_map (get st) (compIds cfg c)
  have hr : ∀ c, (compResult cfg st o c).rate = expRate (compIds cfg c).length (expCovered cfg (get st) c) :=
    fun c => (expRate_eq (compIds cfg c).length).trans (congrArg _ (hc c))
  simp only [rowsOfResults, List.map_map, Function.comp_def, hc, hr]
  rfl

end GoatSpec.Runtime
