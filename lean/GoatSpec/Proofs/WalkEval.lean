import GoatSpec.WalkSpec
import GoatSpec.CtlSplit
/-! `simp` lemmas that run an arm of a translated walker step by step on a node of known kind, optional fields left
    symbolic: `Properties/Walker.lean` proves each node kind by one `simp` with them. Only the equations that the
    walkers translated from the present source need are stated (no default arm of the control pass, no `break` taken, …). -/
namespace GoatSpec.WalkSpec
open GoatSpec GoatSpec.GoAst GoatSpec.WalkIR

/- The interpreter's equations and those of the accessors it calls, for the simp set of the modules that
   import this one. Given first: equation lemmas of an imported definition that no imported module has
   asked for are generated again inside every proof that uses them. -/
attribute [simp] evalA evalC evalCA Ctx.resolve resolveFrom GVal.get getS getE GVal.kind GStmt.kind GExpr.kind
  GVal.nonNil GVal.len GVal.posLine GVal.endLine GVal.tokLine GVal.elems GStmt.line GStmt.pos GExpr.rng
  expandItem expandItemD

/-! The entry points are stated as equations that are not `rfl`, so that `simp` records the step and the kernel does
    not evaluate the type switch (string comparisons) on its own. -/

theorem unfold_eq (w : Walker) (v : GVal) (h : v ≠ .nil) :
    unfold w v = (evalArms ⟨v, []⟩ v.kind w.arms).map (·.1) := by
  cases v with
  | nil => exact absurd rfl h
  | _ => rfl

theorem inspect_eq (w : Inspector) (ch : Nat → Bool) (v : GVal) :
    inspect w ch v = (evalCArms ch ⟨v, []⟩ v.kind w.arms).map (·.1) := by
  unfold inspect; split <;> simp only [*, Option.map_some, Option.map_none]

theorem evalArms_nil (c : Ctx) (k : String) : evalArms c k [] = some ([], false) := rfl

theorem evalArms_ne (c : Ctx) (k k' : String) (body : List Act) (r) (h : k ≠ k') (hs : "*" ≠ k') :
    evalArms c k (([k'], body) :: r) = evalArms c k r := by
  simp [evalArms, h, hs]

theorem evalArms_eq (c : Ctx) (k : String) (body : List Act) (r) :
    evalArms c k (([k], body) :: r) = evalL c body := by
  simp [evalArms]

theorem evalArms_default (c : Ctx) (k : String) (body : List Act) (r) :
    evalArms c k ((["*"], body) :: r) = evalL c body := by
  simp [evalArms]

theorem evalCArms_nil (ch : Nat → Bool) (c : Ctx) (k : String) : evalCArms ch c k [] = some ([], false, false) := rfl

theorem evalCArms_ne (ch : Nat → Bool) (c : Ctx) (k k' : String) (body : List CAct) (r) (h : k ≠ k') (hs : "*" ≠ k') :
    evalCArms ch c k (([k'], body) :: r) = evalCArms ch c k r := by
  simp [evalCArms, h, hs]

theorem evalCArms_eq (ch : Nat → Bool) (c : Ctx) (k : String) (body : List CAct) (r) :
    evalCArms ch c k (([k], body) :: r) = evalCL ch c false body := by
  simp [evalCArms]

/-! The rest of an action list is kept as an argument, not under the binders of a `match` on the first result: `simp`
    would unfold it there again and again. -/

/-- the rest `r` of an action list after its first action has returned `res` -/
def thenL (c : Ctx) (r : List Act) : Res → Res
  | none => none
  | some (is, true) => some (is, true)
  | some (is, false) => (evalL c r).map fun x => (is ++ x.1, x.2)

theorem evalL_nil (c : Ctx) : evalL c [] = some ([], false) := rfl

theorem evalL_cons (c : Ctx) (a : Act) (r : List Act) : evalL c (a :: r) = thenL c r (evalA c a) := by
  rw [evalL]
  rcases evalA c a with _ | ⟨is, _ | _⟩
  · rfl
  · rw [thenL]
    rcases evalL c r with _ | ⟨js, b⟩ <;> rfl
  · rfl

theorem thenL_false (c : Ctx) (r : List Act) (is : List Item) :
    thenL c r (some (is, false)) = (evalL c r).map fun x => (is ++ x.1, x.2) := rfl

theorem thenL_true (c : Ctx) (r : List Act) (is : List Item) : thenL c r (some (is, true)) = some (is, true) := rfl

/-- the same for the control pass; `b` is `changed` after the first action -/
def thenC (ch : Nat → Bool) (c : Ctx) (r : List CAct) : CRes → CRes
  | none => none
  | some (es, b, true) => some (es, b, true)
  | some (es, b, false) => (evalCL ch c b r).map fun x => (es ++ x.1, x.2)

theorem evalCL_nil (ch : Nat → Bool) (c : Ctx) (b : Bool) : evalCL ch c b [] = some ([], b, false) := rfl

theorem evalCL_cons (ch : Nat → Bool) (c : Ctx) (b : Bool) (a : CAct) (r : List CAct) :
    evalCL ch c b (a :: r) = thenC ch c r (evalCA ch c b a) := by
  rw [evalCL]
  rcases evalCA ch c b a with _ | ⟨es, b', _ | _⟩
  · rfl
  · rw [thenC]
    dsimp only    -- reduces the outer `match`: the inner one is then on `evalCL ch c b' r`
    rcases evalCL ch c b' r with _ | ⟨fs, c2, b2⟩ <;> rfl
  · rfl

theorem thenC_false (ch : Nat → Bool) (c : Ctx) (r : List CAct) (es : List Ev) (b : Bool) :
    thenC ch c r (some (es, b, false)) = (evalCL ch c b r).map fun x => (es ++ x.1, x.2) := rfl

theorem joinRes_map_some {α : Type} (f : α → List Item) (l : List α) :
    joinRes (l.map fun x => some (f x, false)) = some (l.flatMap f, false) := by
  induction l with
  | nil => rfl
  | cons x xs ih => simp only [List.map_cons, joinRes, ih, List.flatMap_cons]

/-- Used as `↓evalA_each mk l f` with `mk`, `l`, `f` given: `simp` then discharges `hp` and `hb` by running the path
    and the loop body once, on a variable element. -/
theorem evalA_each {α : Type} (mk : α → GVal) (l : List α) (f : α → List Item) (root : GVal)
    (vs : List (String × GVal)) (p : Path) (v : String) (body : List Act)
    (hp : (Ctx.resolve ⟨root, vs⟩ p).elems = some (l.map mk))
    (hb : ∀ y, evalL ⟨root, (v, mk y) :: vs⟩ body = some (f y, false)) :
    evalA ⟨root, vs⟩ (.each p v body) = some (l.flatMap f, false) := by
  rw [evalA, hp]; simp only [List.map_map, Function.comp_def, hb, joinRes_map_some]

theorem joinC_map_some {α : Type} (b : Bool) (f : α → List Ev) (l : List α) :
    joinC b (l.map fun x => some (f x, b, false)) = some (l.flatMap f, b, false) := by
  induction l with
  | nil => rfl
  | cons x xs ih => simp [joinC, ih]

theorem evalCA_each {α : Type} (mk : α → GVal) (l : List α) (f : α → List Ev) (ch : Nat → Bool) (root : GVal)
    (vs : List (String × GVal)) (b : Bool) (p : Path) (v : String) (body : List CAct)
    (hp : (Ctx.resolve ⟨root, vs⟩ p).elems = some (l.map mk))
    (hb : ∀ y, evalCL ch ⟨root, (v, mk y) :: vs⟩ b body = some (f y, b, false)) :
    evalCA ch ⟨root, vs⟩ b (.each p v body) = some (l.flatMap f, b, false) := by
  rw [evalCA, hp]; simp only [List.map_map, Function.comp_def, hb, joinC_map_some]

/-- the update `changed = changed || isLineChangedRange(P)` guarded by `P != nil`, on the value of `P` -/
def orRangeOn (ch : Nat → Bool) (b : Bool) (v : GVal) : CRes :=
  evalCA ch ⟨v, []⟩ b (.orRange (.nonNil []) [] [])

/-- (a `↓` lemma: it has to fire before the equation of `evalCA` unfolds the `orRange`) -/
theorem evalCA_orRange (ch : Nat → Bool) (c : Ctx) (b : Bool) (p : Path) :
    evalCA ch c b (.orRange (.nonNil p) p p) = orRangeOn ch b (c.resolve p) := by
  simp only [orRangeOn, evalCA, evalC, Ctx.resolve]

theorem orRangeOn_ofOS (ch : Nat → Bool) (b : Bool) (o : Option GStmt) :
    orRangeOn ch b (ofOS o) = some ([], b || rngChanged ch (o.map GStmt.rng), false) := by
  cases o <;> simp [orRangeOn, ofOS, GStmt.rng]

theorem orRangeOn_ofOE (ch : Nat → Bool) (b : Bool) (o : Option GExpr) :
    orRangeOn ch b (ofOE o) = some ([], b || rngChanged ch (o.map GExpr.rng), false) := by
  cases o <;> simp [orRangeOn, ofOE]

theorem orRangeOn_stmt (ch : Nat → Bool) (b : Bool) (s : GStmt) :
    orRangeOn ch b (.stmt s) = some ([], b || rngChanged ch (some s.rng), false) := orRangeOn_ofOS ch b (some s)

theorem orRangeOn_expr (ch : Nat → Bool) (b : Bool) (e : GExpr) :
    orRangeOn ch b (.expr e) = some ([], b || rngChanged ch (some e.rng), false) := orRangeOn_ofOE ch b (some e)

theorem ofOS_none : ofOS none = .nil := rfl
theorem ofOS_some (s : GStmt) : ofOS (some s) = .stmt s := rfl

/-! For a statement node whose kind is not known yet: one step of `kind` / `get`, for `simp only`. -/

theorem kind_stmt (s : GStmt) : (GVal.stmt s).kind = s.kind := rfl
theorem get_stmt (s : GStmt) (f : String) : (GVal.stmt s).get f = getS s f := rfl

theorem expand_nil : expand [] = [] := rfl

theorem expand_cons (i : Item) (is : List Item) : expand (i :: is) = expandItem i ++ expand is := rfl

theorem expand_append (a b : List Item) : expand (a ++ b) = expand a ++ expand b := by
  simp [expand]

theorem expandD_nil (ch : Nat → Bool) : expandD ch [] = [] := rfl

theorem expandD_cons (ch : Nat → Bool) (i : Item) (is : List Item) :
    expandD ch (i :: is) = expandItemD ch i ++ expandD ch is := rfl

attribute [simp] unfold_eq inspect_eq
  evalArms_nil evalArms_ne evalArms_eq evalArms_default evalCArms_nil evalCArms_ne evalCArms_eq
  evalL_nil evalL_cons thenL_false thenL_true evalCL_nil evalCL_cons thenC_false
  orRangeOn_ofOS orRangeOn_ofOE orRangeOn_stmt orRangeOn_expr ofOS_none ofOS_some
  expand_nil expand_cons expandD_nil expandD_cons
attribute [simp ↓] evalCA_orRange

end GoatSpec.WalkSpec
