import GoatSpec.Proofs.Items
/-! `goat clean` and `goat patch` on arrangements: the composed passes at item level. -/
namespace GoatSpec

theorem any_kind_isSome_of_wf {X : List Item} (hwf : ∀ it ∈ X, it.wf = true) :
    X.any (fun it => it.kind.isSome) =
      (X.any (isK .delete) || X.any (isK .insert) || X.any (isK .generate) || X.any (isK .main) || X.any (isK .user)) := by
  simp only [← any_or]
  exact any_congr_mem fun it hit => kind_isSome_of_wf (hwf it hit)

/-- `goat clean` on any text that agrees with `X` up to blank lines: `changed` iff `X` has a block, and the output
    agrees with the user items of `X` -/
theorem clean_arr {l : List Line} {X : List Item} (a0 : Arr l X) :
    (cleanLines l).1 = X.any (fun it => it.kind.isSome) ∧ Arr (cleanLines l).2 (userItems X) := by
  obtain ⟨c1, a1⟩ := a0.erase .delete (by decide)
  obtain ⟨c2, a2⟩ := a1.erase .insert (by decide)
  obtain ⟨c3, a3⟩ := a2.erase .generate (by decide)
  obtain ⟨c4, a4⟩ := a3.erase .main (by decide)
  obtain ⟨c5, a5⟩ := a4.erase .user (by decide)
  rw [userItems_eq_replaceK a0.wf] at a5
  refine ⟨?_, a5⟩
  -- each count is taken on the arrangement the earlier passes left; erasing another kind does not change it
  -- (`any_isK_replaceK_ne`), so all five are counts on `X`
  simp [-List.any_eq_true, cleanLines, c1, c2, c3, c4, c5, cntK_pos, any_isK_replaceK_ne, any_kind_isSome_of_wf a0.wf]

theorem Arr.hasGenerate {l : List Line} {X : List Item} (a : Arr l X) : hasGenerate l = X.any (isK .generate) := by
  simp [-List.any_eq_true, GoatSpec.hasGenerate, (a.erase .generate (by decide)).1, cntK_pos]

/-- `goat patch` likewise (`m`: the file is a main file): lines, the two flags, and the import edits. In the third
    edit the model tests `hasGenerate` on the text after the insert and generate passes, which holds a generate block
    iff `X` had a generate or an insert item (`Arr.hasGenerate` on `a4`). -/
theorem patch_arr (m : Bool) {l : List Line} {X : List Item} (a0 : Arr l X) :
    Arr (patchLines m l).lines (patchExpected m X)
    ∧ (patchLines m l).changed = (X.any (isK .delete) || X.any (isK .insert))
    ∧ (patchLines m l).updated
        = (X.any (isK .delete) || X.any (isK .insert) || X.any (isK .generate) || m && X.any (isK .main))
    ∧ (patchLines m l).imports
        = (if X.any (isK .delete) && !X.any (isK .generate) then [ImportAct.delete] else [])
          ++ (if X.any (isK .insert) then [ImportAct.add] else [])
          ++ (if m && X.any (isK .main) && !(X.any (isK .generate) || X.any (isK .insert))
              then [ImportAct.delete] else []) := by
  have hg : ∀ it ∈ [genBlockItem], it.wf = true := List.forall_mem_singleton.mpr genBlock_wf
  obtain ⟨c1, a1⟩ := a0.erase .delete (by decide)
  obtain ⟨c2, a2⟩ := a1.pass .insert (by decide) hg
  obtain ⟨c3, a3⟩ := a2.pass .generate (by decide) hg
  obtain ⟨c4, a4⟩ := a3.erase .main (by decide)
  rw [genBlock_flatten] at c2 a2 c3 a3 c4 a4
  rw [patchExpected_eq_replaceK]
  cases m
  · refine ⟨a3, ?_⟩
    simp [-List.any_eq_true, patchLines, c1, c2, c3, a1.hasGenerate, cntK_pos, any_isK_replaceK_ne, isK_genBlock]
    cases X.any (isK .insert) <;> simp
  · refine ⟨a4, ?_⟩
    simp [-List.any_eq_true, patchLines, c1, c2, c3, c4, a1.hasGenerate, a4.hasGenerate, cntK_pos,
      any_isK_replaceK_ne, any_isK_replaceK_self, isK_genBlock]
    cases X.any (isK .insert) <;> simp

end GoatSpec
