import GoatSpec.Proofs.Items
/-! The item-level file operations (`fileStep`): each admissible one keeps `FileSt.ok`, and
    cleaning an `ok` file leaves the user's text and no artefact (C11, C15). -/
namespace GoatSpec

theorem userItems_insertBlocks (idxs : List Nat) (i : Nat) (items : List Item) :
    userItems (insertBlocks idxs i items) = userItems items := by
  induction items generalizing i with
  | nil => rfl
  | cons it r ih =>
    simp only [insertBlocks, userItems, List.filter_append, List.filter_cons] at ih ⊢
    split
    · simp [genBlock_kind, ih]
    · simp [ih]

theorem wf_insertBlocks (idxs : List Nat) (i : Nat) (items : List Item) (h : ∀ it ∈ items, it.wf = true) :
    ∀ it ∈ insertBlocks idxs i items, it.wf = true := by
  induction items generalizing i with
  | nil => exact List.forall_mem_nil _
  | cons x r ih =>
    have hx := List.forall_mem_cons.mp h
    rw [insertBlocks]
    refine List.forall_mem_append.mpr ⟨fun it hit => ?_, List.forall_mem_cons.mpr ⟨hx.1, ih (i + 1) hx.2⟩⟩
    split at hit
    · exact List.mem_singleton.mp hit ▸ genBlock_wf
    · cases hit

theorem fileStep_ok (f : FileSt) (op : FileOp) (hf : f.ok) (ha : op.admissible f) : (fileStep f op).ok := by
  cases op with
  | track idxs =>
    refine ⟨wf_insertBlocks idxs 0 f.items hf.1, ?_⟩
    simp only [fileStep, trackFile, userItems_insertBlocks]; exact hf.2
  | patch m edited =>
    obtain ⟨hw, hu⟩ := ha
    refine ⟨forall_patchExpected genBlock_wf hw, ?_⟩
    simp only [fileStep, patchFile, userItems_patchExpected, hu]; exact hf.2
  | clean =>
    refine ⟨fun it hit => hf.1 it (List.mem_filter.mp hit).1, ?_⟩
    simp only [fileStep, cleanFile, userItems_idem]; exact hf.2
  | userEdit ni nt =>
    obtain ⟨hw, _, ht⟩ := ha
    exact ⟨hw, ht⟩

theorem cleanFile_restores (f : FileSt) (hf : f.ok) :
    (∀ it ∈ (cleanFile f).items, it.kind = none)
    ∧ nonBlank (flatten (cleanFile f).items) = nonBlank f.text :=
  ⟨kind_of_mem_userItems f.items, hf.2⟩

theorem crashState_mem {before after : List FileSt} {k : Nat} {g : FileSt}
    (h : g ∈ crashState before after k) : g ∈ before ∨ g ∈ after := by
  rcases List.mem_append.mp h with h | h
  · exact Or.inr (List.mem_of_mem_take h)
  · exact Or.inl (List.mem_of_mem_drop h)

end GoatSpec
