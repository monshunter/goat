import GoatSpec.Mark
/-! The mark arrays of patch granularity (`patchScope` and its methods, pkg/tracking/types.go:564-637). `mkA s m j` is
    the mark of line `j` (> `s`) in the array `m` of a patch scope that starts at line `s`: 0 unchanged, 1 changed or
    comment, 2 covered by an insertion. The loops of `markInserted` are stated as paintings (`Painted s I m m'`: the
    lines of `I` were 1 and are 2, nothing else moved), which compose. -/
namespace GoatSpec.Patch
open GoatSpec

def mkA (s : Nat) (m : Array Nat) (j : Nat) : Nat := m.getD (j - s - 1) 0

theorem lt_between {s x y z : Nat} (hx : s < x) (hy : s < y) (h : (x < z ∧ z < y) ∨ (y < z ∧ z < x)) : s < z :=
  h.elim (fun h => Nat.lt_trans hx h.1) fun h => Nat.lt_trans hy h.1

/-- `m'` is `m` with the lines of `I`, all of them marked 1, turned to 2 -/
structure Painted (s : Nat) (I : Nat → Prop) (m m' : Array Nat) : Prop where
  size : m'.size = m.size
  on : ∀ x, s < x → I x → mkA s m x = 1 ∧ mkA s m' x = 2
  off : ∀ x, s < x → ¬ I x → mkA s m' x = mkA s m x

theorem Painted.refl {s : Nat} {I : Nat → Prop} {m : Array Nat} (h : ∀ x, ¬ I x) : Painted s I m m :=
  ⟨rfl, fun x _ hx => absurd hx (h x), fun _ _ _ => rfl⟩

theorem Painted.set {s j : Nat} {m : Array Nat} (hj : s < j) (h1 : mkA s m j = 1) :
    Painted s (· = j) m (m.setIfInBounds (j - s - 1) 2) := by
  have hin : j - s - 1 < m.size := Nat.lt_of_not_le fun hle => by
    simp [mkA, Array.getElem?_eq_none hle] at h1
  refine ⟨Array.size_setIfInBounds, fun x hx e => ?_, fun x hx e => ?_⟩
  · subst e; exact ⟨h1, by simp [mkA, hin]⟩
  · have : j - s - 1 ≠ x - s - 1 := by omega
    simp [mkA, this]

theorem Painted.trans {s : Nat} {I J : Nat → Prop} {m m' m'' : Array Nat} (h : Painted s I m m')
    (h' : Painted s J m' m'') : Painted s (fun x => I x ∨ J x) m m'' := by
  refine ⟨h'.size.trans h.size, fun x hx hIJ => ?_, fun x hx hIJ => ?_⟩
  · by_cases hI : I x
    · -- a line of `I` is 2 in `m'`, so it is not in `J`
      have hJ : ¬ J x := fun hJ => by have := (h.on x hx hI).2.symm.trans (h'.on x hx hJ).1; omega
      exact ⟨(h.on x hx hI).1, (h'.off x hx hJ).trans (h.on x hx hI).2⟩
    · have hJ := hIJ.resolve_left hI
      exact ⟨(h.off x hx hI).symm.trans (h'.on x hx hJ).1, (h'.on x hx hJ).2⟩
  · exact (h'.off x hx fun hJ => hIJ (Or.inr hJ)).trans (h.off x hx fun hI => hIJ (Or.inl hI))

theorem Painted.congr {s : Nat} {I J : Nat → Prop} {m m' : Array Nat} (h : Painted s I m m')
    (hIJ : ∀ x, s < x → (I x ↔ J x)) : Painted s J m m' :=
  ⟨h.size, fun x hx hJ => h.on x hx ((hIJ x hx).mpr hJ), fun x hx hJ => h.off x hx fun hI => hJ ((hIJ x hx).mp hI)⟩

theorem down_painted (p : PatchScope) (fuel j : Nat) (m : Array Nat) :
    ∃ stop, stop ≤ j ∧ Painted p.s (fun x => stop < x ∧ x ≤ j) m (PatchScope.markInserted.down p j fuel m) := by
  fun_induction PatchScope.markInserted.down p j fuel m with
  | case3 j m f hj h1 ih =>  -- the mark of `j` is 1: it is painted and the loop goes on
    obtain ⟨stop, hs, h⟩ := ih
    exact ⟨stop, by omega, ((Painted.set (Nat.lt_of_not_le hj) (by simpa [mkA] using h1)).trans h).congr (by omega)⟩
  | _ => exact ⟨_, Nat.le_refl _, .refl (by omega)⟩  -- the loop ends at `j`: nothing is painted

theorem up_painted (p : PatchScope) (fuel j : Nat) (m : Array Nat) (hj : p.s < j) :
    ∃ stop, j ≤ stop ∧ Painted p.s (fun x => j ≤ x ∧ x < stop) m (PatchScope.markInserted.up p j fuel m) := by
  fun_induction PatchScope.markInserted.up p j fuel m with
  | case3 j m f _ h1 ih =>  -- as in `down_painted`; `hj` because this loop tests `j ≥ p.e` only
    obtain ⟨stop, hs, h⟩ := ih (Nat.lt_succ_of_lt hj)
    exact ⟨stop, by omega, ((Painted.set hj (by simpa [mkA] using h1)).trans h).congr (by omega)⟩
  | _ => exact ⟨_, Nat.le_refl _, .refl (by omega)⟩  -- the loop ends at `j`

theorem down_spec (p : PatchScope) (fuel : Nat) : ∀ (j : Nat) (m : Array Nat),
    ∃ stop, stop ≤ j ∧
      (∀ x, p.s < x → stop < x → x ≤ j → mkA p.s m x = 1 ∧ mkA p.s (PatchScope.markInserted.down p j fuel m) x = 2) ∧
      (∀ x, p.s < x → (x ≤ stop ∨ j < x) → mkA p.s (PatchScope.markInserted.down p j fuel m) x = mkA p.s m x) ∧
      (PatchScope.markInserted.down p j fuel m).size = m.size := by
  intro j m
  obtain ⟨stop, hs, h⟩ := down_painted p fuel j m
  exact ⟨stop, hs, fun x hx h1 h2 => h.on x hx ⟨h1, h2⟩, fun x hx hr => h.off x hx (by omega), h.size⟩

theorem up_spec (p : PatchScope) (fuel : Nat) : ∀ (j : Nat) (m : Array Nat), p.s < j →
    ∃ stop, j ≤ stop ∧
      (∀ x, j ≤ x → x < stop → mkA p.s m x = 1 ∧ mkA p.s (PatchScope.markInserted.up p j fuel m) x = 2) ∧
      (∀ x, p.s < x → (x < j ∨ stop ≤ x) → mkA p.s (PatchScope.markInserted.up p j fuel m) x = mkA p.s m x) ∧
      (PatchScope.markInserted.up p j fuel m).size = m.size := by
  intro j m hj
  obtain ⟨stop, hs, h⟩ := up_painted p fuel j m hj
  exact ⟨stop, hs, fun x h1 h2 => h.on x (by omega) ⟨h1, h2⟩, fun x hx hr => h.off x hx (by omega), h.size⟩

theorem get_ok_iff {p : PatchScope} {line v : Nat} :
    p.get line = .ok v ↔ p.s < line ∧ line - p.s - 1 < p.marks.size ∧ v = mkA p.s p.marks line := by
  unfold PatchScope.get mkA
  by_cases hl : line ≤ p.s
  · simp [hl]; omega
  · by_cases hi : line - p.s - 1 < p.marks.size
    · simp [hl, hi, eq_comm]; omega
    · simp [hl, hi]

theorem get_ok_mkA {p : PatchScope} {line v : Nat} (h : p.get line = .ok v) : mkA p.s p.marks line = v :=
  (get_ok_iff.mp h).2.2.symm

theorem back_false (p : PatchScope) (fuel : Nat) : ∀ (j : Nat), PatchScope.canInsert.back p j fuel = .ok false →
    ∃ j0, p.s < j0 ∧ j0 ≤ j ∧ mkA p.s p.marks j0 = 2 ∧ ∀ x, j0 < x → x ≤ j → mkA p.s p.marks x = 1 := by
  intro j
  fun_induction PatchScope.canInsert.back p j fuel with
  | case4 j f hj hg ih =>  -- the mark of `j` is 1: the scan goes on
    intro h
    obtain ⟨j0, hj0, hle, htwo, hone⟩ := ih h
    exact ⟨j0, hj0, by omega, htwo, fun x hx1 hx2 =>
      if hxj : x = j then hxj ▸ get_ok_mkA hg else hone x hx1 (by omega)⟩
  | case5 j f hj v hv hg =>  -- any other mark ends the scan: the answer is `v != 2`
    intro h
    have hv2 : v = 2 := by simpa using h
    exact ⟨j, Nat.lt_of_not_le hj, Nat.le_refl _, hv2 ▸ get_ok_mkA hg, fun x hx1 hx2 => by omega⟩
  | _ => intro h; cases h  -- the scan runs out (`true`), or `get j` fails

theorem back_ok (p : PatchScope) (fuel j : Nat) (hj : j ≤ p.s + p.marks.size) :
    ∃ b, PatchScope.canInsert.back p j fuel = .ok b := by
  fun_induction PatchScope.canInsert.back p j fuel with
  | case3 j f hjs e he =>  -- `get j` fails
    rw [get_ok_iff.mpr ⟨Nat.lt_of_not_le hjs, by omega, rfl⟩] at he; cases he
  | case4 _ _ _ _ ih => exact ih (by omega)  -- the mark of `j` is 1: the scan goes on
  | _ => exact ⟨_, rfl⟩

theorem canInsert_ok_iff {p : PatchScope} {line : Nat} :
    (∃ b, p.canInsert line = .ok b) ↔ p.s < line ∧ line - p.s - 1 < p.marks.size := by
  unfold PatchScope.canInsert
  constructor
  · rintro ⟨b, h⟩
    split at h
    · cases h
    all_goals next hg => exact ⟨(get_ok_iff.mp hg).1, (get_ok_iff.mp hg).2.1⟩
  · intro ⟨h1, h2⟩
    rw [get_ok_iff.mpr ⟨h1, h2, rfl⟩]
    split
    · cases ‹_ = _›
    · exact ⟨_, rfl⟩
    · exact back_ok p line (line - 1) (by omega)

theorem canInsert_false (p : PatchScope) (line : Nat) (h : p.canInsert line = .ok false) :
    p.s < line ∧ ∃ j0, p.s < j0 ∧ j0 ≤ line ∧ mkA p.s p.marks j0 = 2 ∧ ∀ x, j0 < x → x < line → mkA p.s p.marks x = 1 := by
  have hl := (canInsert_ok_iff.mp ⟨_, h⟩).1
  refine ⟨hl, ?_⟩
  unfold PatchScope.canInsert at h
  split at h
  · cases h
  · next hg => exact ⟨line, hl, Nat.le_refl _, get_ok_mkA hg, fun x hx1 hx2 => by omega⟩  -- `line` itself is marked 2
  · obtain ⟨j0, hj0, hle, htwo, hone⟩ := back_false p line (line - 1) h
    exact ⟨j0, hj0, by omega, htwo, fun x hx1 hx2 => hone x hx1 (by omega)⟩

/-- the lines painted by `markInserted` (`line` itself if `P`, a run before it, a run after it) form an interval
    around `line` -/
theorem painted_between {lo hi line x y : Nat} {P : Prop}
    (hx : ((x = line ∧ P) ∨ lo < x ∧ x ≤ line - 1) ∨ line + 1 ≤ x ∧ x < hi)
    (hy : (x < y ∧ y < line) ∨ (line < y ∧ y < x)) :
    ((y = line ∧ P) ∨ lo < y ∧ y ≤ line - 1) ∨ line + 1 ≤ y ∧ y < hi := by
  rcases hx with (⟨rfl, _⟩ | hx) | hx
  · exact absurd hy (by omega)
  · exact .inl (.inr (by omega))
  · exact .inr (by omega)

theorem markInserted_spec (p p' : PatchScope) (line : Nat) (h : p.markInserted line = .ok p') :
    p'.s = p.s ∧ p'.e = p.e ∧ p'.marks.size = p.marks.size ∧ p.s < line ∧
    (∀ x, p.s < x → mkA p.s p'.marks x ≠ mkA p.s p.marks x →
      mkA p.s p.marks x = 1 ∧ mkA p.s p'.marks x = 2 ∧
      ∀ y, (x < y ∧ y < line) ∨ (line < y ∧ y < x) → mkA p.s p.marks y = 1) ∧
    (mkA p.s p.marks line = 1 → mkA p.s p'.marks line = 2) := by
  unfold PatchScope.markInserted at h
  split at h
  · cases h
  · next v hg =>
    obtain ⟨h1, -, rfl⟩ := get_ok_iff.mp hg
    cases h
    have h0 : Painted p.s (fun x => x = line ∧ mkA p.s p.marks line = 1) p.marks
        (if (mkA p.s p.marks line == 1) = true then p.marks.setIfInBounds (line - p.s - 1) 2 else p.marks) := by
      split
      · next hv => exact (Painted.set h1 (by simpa using hv)).congr (by simpa using fun _ _ _ => hv)
      · next hv => exact .refl fun x hx => hv (by simpa using hx.2)
    obtain ⟨lo, hlo, hd⟩ := down_painted p line (line - 1) _
    obtain ⟨hi, hhi, hu⟩ := up_painted p (p.e - line) (line + 1) _ (Nat.lt_succ_of_lt h1)
    -- the painted lines: `line` when it was 1, and the runs of 1s before and after it
    have hp := (h0.trans hd).trans hu
    refine ⟨rfl, rfl, hp.size, h1, fun x hx hne => ?_, fun hl => (hp.on line h1 (.inl (.inl ⟨rfl, hl⟩))).2⟩
    have hI := Classical.byContradiction fun hI => hne (hp.off x hx hI)
    exact ⟨(hp.on x hx hI).1, (hp.on x hx hI).2, fun y hy => (hp.on y (lt_between hx h1 hy) (painted_between hI hy)).1⟩

/-- a line counts for a patch when it is changed or a comment line -/
def flag (env : Env) (x : Nat) : Bool :=
  (match env.isChanged x with | .ok true => true | _ => false) || (match env.isComment x with | .ok true => true | _ => false)

theorem flag_eq {env : Env} {x : Nat} {a b : Bool} (ha : env.isChanged x = .ok a) (hb : env.isComment x = .ok b) :
    flag env x = (a || b) := by
  unfold flag; rw [ha, hb]; cases a <;> cases b <;> rfl

theorem fill_eq {env : Env} {s fuel i : Nat} {acc m : Array Nat} (h : newPatchScope.fill env s i fuel acc = .ok m) :
    m = acc ++ Array.ofFn (n := fuel) fun k => if flag env (s + i + k + 1) then 1 else 0 := by
  fun_induction newPatchScope.fill env s i fuel acc with
  | case1 => cases h; simp
  | case2 i acc f a b hb ha ih =>  -- both reads succeed: the pushed mark is the head of the `ofFn` over `f + 1`
    rw [ih h, Array.ofFn_succ', ← Array.append_assoc, Array.push_eq_append, Fin.val_zero, Nat.add_zero, flag_eq ha hb]
    simp only [Fin.val_succ, Nat.add_assoc, Nat.add_comm 1]
  | case3 | case4 => cases h  -- a read fails

theorem fill_spec (env : Env) (s : Nat) (fuel : Nat) : ∀ (i : Nat) (acc m : Array Nat),
    newPatchScope.fill env s i fuel acc = .ok m → acc.size = i →
    m.size = i + fuel ∧ ∀ k, k < i + fuel → m.getD k 0 = if k < i then acc.getD k 0 else (if flag env (s + k + 1) then 1 else 0) := by
  intro i acc m h hi
  subst hi
  rw [fill_eq h]
  refine ⟨by simp, fun k hk => ?_⟩
  rw [Array.getD_eq_getD_getElem?, Array.getElem?_append]
  by_cases hki : k < acc.size
  · simp [hki]
  · simp [hki, show k - acc.size < fuel by omega, show s + acc.size + (k - acc.size) = s + k by omega]

theorem newPatchScope_spec (env : Env) (s e : Nat) (ps : PatchScope) (h : newPatchScope env s e = .ok ps) :
    ps.s = s ∧ ps.e = e ∧ ps.marks.size = e - s - 1 ∧ ∀ x, s < x → mkA s ps.marks x = if x < e ∧ flag env x = true then 1 else 0 := by
  simp only [newPatchScope] at h
  split at h
  · cases h
  · next m hf =>
    cases h
    rw [fill_eq hf, Array.empty_append]
    refine ⟨rfl, rfl, Array.size_ofFn, fun x hx => ?_⟩
    rw [mkA, Array.getD_eq_getD_getElem?, Array.getElem?_ofFn]
    by_cases hxe : x < e
    · simp only [dif_pos (show x - s - 1 < e - s - 1 by omega), show s + 0 + (x - s - 1) + 1 = x by omega,
        Option.getD_some, hxe, true_and]
    · simp only [dif_neg (show ¬ x - s - 1 < e - s - 1 by omega), Option.getD_none, hxe, false_and, if_false]

end GoatSpec.Patch
