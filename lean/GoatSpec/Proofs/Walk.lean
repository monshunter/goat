import GoatSpec.CtlSplit
/-! The control pass is `ast.Inspect`: `ctlS ch s` is the concatenation, over every statement nested anywhere in `s` in
    pre-order (`subS`), of the marks that statement's own header forces (`ctlHead`). What the pass emits is then read
    off the non-recursive `ctlHead`. Before that: the positions the statement walk enters (`Walked…`); after it: the
    statement walk emits no `force` event, and where an event of a declaration comes from (`mem_declEvents`). -/
namespace GoatSpec

/-! `Walked… l x`: a marking statement with first line `l` is visited by `processStatements` started on `x`. -/
mutual
inductive WalkedE : Nat → Expr → Prop
  | lit {l pl el lb rb p body} : pl ≠ el → WalkedL l body → WalkedE l (.funcLit pl el lb rb (some p) body)
  | callF {l fn args} : WalkedEs l fn → WalkedE l (.call fn args)
  | callA {l fn args} : WalkedEs l args → WalkedE l (.call fn args)
  | comp {l typ elts} : WalkedEs l elts → WalkedE l (.composite typ elts)
  | kv {l k v} : WalkedEs l v → WalkedE l (.keyValue k v)
  | un {l x} : WalkedEs l x → WalkedE l (.unary x)
  | st {l fs} : WalkedEs l fs → WalkedE l (.structType fs)
inductive WalkedEs : Nat → List Expr → Prop
  | head {l e es} : WalkedE l e → WalkedEs l (e :: es)
  | tail {l e es} : WalkedEs l es → WalkedEs l (e :: es)
inductive WalkedS : Nat → Stmt → Prop
  | mark {l e pre ent post} : WalkedS l (.simple .mark l e pre ent post)
  | markE {l l' e pre ent post} : WalkedEs l ent → WalkedS l (.simple .mark l' e pre ent post)
  | decl {l e n pre ent post} : 0 < n → WalkedS l (.simple (.decl n) l e pre ent post)
  | blk {l e body} : WalkedS l (.block l e body)
  | blkB {l l' e body} : WalkedL l body → WalkedS l (.block l' e body)
  | lab {l l' e inner} : WalkedS l inner → WalkedS l (.labeled l' e inner)
  | ifB {l l' e init ir cr cond lb rb body els} : WalkedL l body → WalkedS l (.ifS l' e init ir cr cond lb rb body els)
  | ifElseIf {l l' e init ir cr cond lb rb body s rest} : (∀ a b c, s ≠ .block a b c) → WalkedS l s →
      WalkedS l (.ifS l' e init ir cr cond lb rb body (s :: rest))
  | ifElse {l l' e init ir cr cond lb rb body a b c rest} : WalkedL l c →
      WalkedS l (.ifS l' e init ir cr cond lb rb body (.block a b c :: rest))
  | forB {l l' e init ir cr pr cond post lb rb body} : WalkedL l body → WalkedS l (.forS l' e init ir cr pr cond post lb rb body)
  | rangeB {l l' e kr vr xr kvx lb rb body} : WalkedL l body → WalkedS l (.rangeS l' e kr vr xr kvx lb rb body)
  | switchB {l l' e init ir tr tag lb rb cl} : WalkedL l cl → WalkedS l (.switchS l' e init ir tr tag lb rb cl)
  | tswitchB {l l' e init ir ar asg lb rb cl} : WalkedL l cl → WalkedS l (.typeSwitchS l' e init ir ar asg lb rb cl)
  | selectB {l l' e lb rb cl} : WalkedL l cl → WalkedS l (.selectS l' e lb rb cl)
  | caseB {l l' e lr list colon body} : WalkedL l body → WalkedS l (.caseC l' e lr list colon body)
  | commB {l l' e cr comm colon body} : WalkedL l body → WalkedS l (.commC l' e cr comm colon body)
inductive WalkedL : Nat → List Stmt → Prop
  | head {l s ss} : WalkedS l s → WalkedL l (s :: ss)
  | tail {l s ss} : WalkedL l ss → WalkedL l (s :: ss)
end

theorem evElse_nonblock {s : Stmt} {rest : List Stmt} (h : ∀ a b c, s ≠ .block a b c) :
    evElse (s :: rest) = evS s := by
  cases s with
  | block a b c => exact absurd rfl (h a b c)
  | _ => rfl

mutual
theorem walkedE_ev {l e} (h : WalkedE l e) : Ev.check l ∈ evE e := by
  cases h with
  | lit hne hb => simp [evE, hne, walkedL_ev hb]
  | callF h => exact List.mem_append_left _ (walkedEs_ev h)
  | callA h => exact List.mem_append_right _ (walkedEs_ev h)
  | comp h | kv h | un h | st h => exact walkedEs_ev h
theorem walkedEs_ev {l es} (h : WalkedEs l es) : Ev.check l ∈ evEs es := by
  cases h with
  | head h => exact List.mem_append_left _ (walkedE_ev h)
  | tail h => exact List.mem_append_right _ (walkedEs_ev h)
theorem walkedS_ev {l s} (h : WalkedS l s) : Ev.check l ∈ evS s := by
  cases h with
  | mark | blk => exact List.mem_cons_self ..
  | markE h => exact List.mem_cons_of_mem _ (walkedEs_ev h)
  | decl hn => exact List.mem_replicate.2 ⟨Nat.ne_of_gt hn, rfl⟩
  | blkB h => exact List.mem_cons_of_mem _ (walkedL_ev h)
  | lab h => rw [evS]; exact walkedS_ev h
  | ifB h => exact List.mem_append_left _ (walkedL_ev h)
  | ifElseIf hnb h => exact List.mem_append_right _ (evElse_nonblock hnb ▸ walkedS_ev h)
  | ifElse h => exact List.mem_append_right _ (walkedL_ev h)
  | forB h | rangeB h | switchB h | tswitchB h | selectB h | caseB h | commB h => exact walkedL_ev h
theorem walkedL_ev {l ss} (h : WalkedL l ss) : Ev.check l ∈ evL ss := by
  cases h with
  | head h => exact List.mem_append_left _ (walkedS_ev h)
  | tail h => exact List.mem_append_right _ (walkedL_ev h)
end

mutual
def subE : Expr → List Stmt
  | .funcLit _ _ _ _ _ body => subL body
  | .call fn args => subEs fn ++ subEs args
  | .composite typ elts => subEs typ ++ subEs elts
  | .keyValue k v => subEs k ++ subEs v
  | .unary x => subEs x
  | .structType fs => subEs fs
  | .other cs => subEs cs
def subEs : List Expr → List Stmt
  | [] => []
  | e :: es => subE e ++ subEs es
def subS : Stmt → List Stmt
  | .simple k l e pre ent post => .simple k l e pre ent post :: (subEs pre ++ subEs ent ++ subEs post)
  | .block l e body => .block l e body :: subL body
  | .labeled l e inner => .labeled l e inner :: subS inner
  | .ifS l e init ir cr cond lb rb body els =>
    .ifS l e init ir cr cond lb rb body els :: (subL init ++ subEs cond ++ subL body ++ subL els)
  | .forS l e init ir cr pr cond post lb rb body =>
    .forS l e init ir cr pr cond post lb rb body :: (subL init ++ subEs cond ++ subL post ++ subL body)
  | .rangeS l e kr vr xr kvx lb rb body => .rangeS l e kr vr xr kvx lb rb body :: (subEs kvx ++ subL body)
  | .switchS l e init ir tr tag lb rb cl => .switchS l e init ir tr tag lb rb cl :: (subL init ++ subEs tag ++ subL cl)
  | .typeSwitchS l e init ir ar asg lb rb cl => .typeSwitchS l e init ir ar asg lb rb cl :: (subL init ++ subL asg ++ subL cl)
  | .selectS l e lb rb cl => .selectS l e lb rb cl :: subL cl
  | .caseC l e lr list colon body => .caseC l e lr list colon body :: (subEs list ++ subL body)
  | .commC l e cr comm colon body => .commC l e cr comm colon body :: (subL comm ++ subL body)
def subL : List Stmt → List Stmt
  | [] => []
  | s :: ss => subS s ++ subL ss
end

/-- the callback on the node, then go/ast's visit of the children -/
theorem ctlS_eq (ch : Nat → Bool) (s : Stmt) : ctlS ch s = WalkSpec.ctlHead ch s ++ WalkSpec.ctlKids ch s := by
  cases s <;> simp only [ctlS, WalkSpec.ctlHead, WalkSpec.ctlKids, List.append_assoc, List.nil_append]
  -- left: `ifS`, where `ctlS` spells out the `match` on `els` that `elseForce els` stands for
  rfl

mutual
theorem ctlE_heads (ch : Nat → Bool) (e : Expr) : ctlE ch e = (subE e).flatMap (WalkSpec.ctlHead ch) := by
  cases e <;> simp only [ctlE, subE, List.flatMap_append, ctlL_heads ch, ctlEs_heads ch]
theorem ctlEs_heads (ch : Nat → Bool) (es : List Expr) : ctlEs ch es = (subEs es).flatMap (WalkSpec.ctlHead ch) := by
  cases es <;> simp only [ctlEs, subEs, List.flatMap_append, List.flatMap_nil, ctlE_heads ch, ctlEs_heads ch]
theorem ctlS_heads (ch : Nat → Bool) (s : Stmt) : ctlS ch s = (subS s).flatMap (WalkSpec.ctlHead ch) := by
  rw [ctlS_eq]
  cases s <;> simp only [WalkSpec.ctlKids, subS, List.flatMap_cons, List.flatMap_append, ctlL_heads ch, ctlEs_heads ch, ctlS_heads ch]
theorem ctlL_heads (ch : Nat → Bool) (ss : List Stmt) : ctlL ch ss = (subL ss).flatMap (WalkSpec.ctlHead ch) := by
  cases ss <;> simp only [ctlL, subL, List.flatMap_append, List.flatMap_nil, ctlS_heads ch, ctlL_heads ch]
end

theorem rngChanged_false (r : ORng) : rngChanged (fun _ => false) r = false := by
  cases r with
  | none => rfl
  | some p => simp [rngChanged]

theorem ctlHead_false (s : Stmt) : WalkSpec.ctlHead (fun _ => false) s = [] := by
  cases s <;> simp [WalkSpec.ctlHead, rngChanged_false]

theorem ctlE_false (e : Expr) : ctlE (fun _ => false) e = [] := by
  simp [ctlE_heads, ctlHead_false]
theorem ctlEs_false (es : List Expr) : ctlEs (fun _ => false) es = [] := by
  simp [ctlEs_heads, ctlHead_false]
theorem ctlS_false (s : Stmt) : ctlS (fun _ => false) s = [] := by
  simp [ctlS_heads, ctlHead_false]
theorem ctlL_false (ss : List Stmt) : ctlL (fun _ => false) ss = [] := by
  simp [ctlL_heads, ctlHead_false]

def Ev.isForce : Ev → Bool
  | .force _ => true
  | _ => false

theorem forall_mem_ite {α : Type} {P : α → Prop} {c : Prop} [Decidable c] {xs ys : List α}
    (h1 : ∀ x ∈ xs, P x) (h2 : ∀ x ∈ ys, P x) : ∀ x ∈ (if c then xs else ys), P x := by
  split
  · exact h1
  · exact h2

mutual
theorem evE_noForce (e : Expr) : ∀ ev ∈ evE e, ev.isForce = false := by
  cases e with
  | funcLit pl el lb rb first body =>
    cases first with
    | none => exact List.forall_mem_nil _
    | some p => exact forall_mem_ite (List.forall_mem_singleton.2 rfl) (evL_noForce body)
  | call fn args => exact List.forall_mem_append.2 ⟨evEs_noForce fn, evEs_noForce args⟩
  | composite _ x | keyValue _ x | unary x | structType x => exact evEs_noForce x
  | other cs => exact List.forall_mem_nil _
theorem evEs_noForce (es : List Expr) : ∀ ev ∈ evEs es, ev.isForce = false := by
  cases es with
  | nil => exact List.forall_mem_nil _
  | cons e r => exact List.forall_mem_append.2 ⟨evE_noForce e, evEs_noForce r⟩
theorem evS_noForce (s : Stmt) : ∀ ev ∈ evS s, ev.isForce = false := by
  cases s with
  | simple k l e pre ent post =>
    cases k with
    | mark => exact List.forall_mem_cons.2 ⟨rfl, evEs_noForce ent⟩
    | noMark => exact List.forall_mem_nil _
    | decl n => exact List.forall_mem_replicate.2 (.inr rfl)
  | block l e body => exact List.forall_mem_cons.2 ⟨rfl, evL_noForce body⟩
  | labeled l e inner => exact evS_noForce inner
  | ifS l e init ir cr cond lb rb body els => exact List.forall_mem_append.2 ⟨evL_noForce body, evElse_noForce els⟩
  | forS | rangeS | switchS | typeSwitchS | selectS | caseC | commC => exact evL_noForce _
theorem evElse_noForce (els : List Stmt) : ∀ ev ∈ evElse els, ev.isForce = false := by
  cases els with
  | nil => exact List.forall_mem_nil _
  | cons s r =>
    cases s with
    | block a b c => exact evL_noForce c
    | _ => exact evS_noForce _
theorem evL_noForce (ss : List Stmt) : ∀ ev ∈ evL ss, ev.isForce = false := by
  cases ss with
  | nil => exact List.forall_mem_nil _
  | cons s r => exact List.forall_mem_append.2 ⟨evS_noForce s, evL_noForce r⟩
end

theorem globalLitEvents_noForce (e : Expr) : ∀ ev ∈ globalLitEvents e, ev.isForce = false := by
  cases e with
  -- `processGlobalValueSpecs` treats the literal as `analyzeAndModifyExpr` treats one whose Pos/End lines are its
  -- brace lines
  | funcLit pl el lb rb first body => exact evE_noForce (.funcLit lb rb lb rb first body)
  | _ => exact List.forall_mem_nil _

theorem clauseForces_force (cl : List Stmt) : ∀ ev ∈ clauseForces cl, ev.isForce = true := by
  induction cl with
  | nil => exact List.forall_mem_nil _
  | cons c r ih =>
    cases c with
    | caseC ln e lr list colon body =>
      exact List.forall_mem_append.2 ⟨forall_mem_ite (List.forall_mem_nil _) (List.forall_mem_singleton.2 rfl), ih⟩
    | _ => exact ih

theorem elseForce_force (els : List Stmt) : ∀ ev ∈ WalkSpec.elseForce els, ev.isForce = true := by
  unfold WalkSpec.elseForce
  split
  · exact forall_mem_ite (List.forall_mem_nil _) (List.forall_mem_singleton.2 rfl)
  · exact List.forall_mem_nil _

theorem ctlHead_force (ch : Nat → Bool) (s : Stmt) : ∀ ev ∈ WalkSpec.ctlHead ch s, ev.isForce = true := by
  cases s with
  | ifS ln e init ir cr cond lb rb body els =>
    exact forall_mem_ite (List.forall_mem_cons.2 ⟨rfl, elseForce_force els⟩) (List.forall_mem_nil _)
  | forS | rangeS | caseC | commC => exact forall_mem_ite (List.forall_mem_singleton.2 rfl) (List.forall_mem_nil _)
  | switchS | typeSwitchS => exact forall_mem_ite (clauseForces_force _) (List.forall_mem_nil _)
  | _ => exact List.forall_mem_nil _

theorem heads_force (ch : Nat → Bool) (X : List Stmt) : ∀ ev ∈ X.flatMap (WalkSpec.ctlHead ch), ev.isForce = true :=
  List.forall_mem_flatMap.2 fun t _ => ctlHead_force ch t

theorem ctlE_force (ch : Nat → Bool) (e : Expr) : ∀ ev ∈ ctlE ch e, ev.isForce = true :=
  ctlE_heads ch e ▸ heads_force ch (subE e)
theorem ctlEs_force (ch : Nat → Bool) (es : List Expr) : ∀ ev ∈ ctlEs ch es, ev.isForce = true :=
  ctlEs_heads ch es ▸ heads_force ch (subEs es)
theorem ctlS_force (ch : Nat → Bool) (s : Stmt) : ∀ ev ∈ ctlS ch s, ev.isForce = true :=
  ctlS_heads ch s ▸ heads_force ch (subS s)
theorem ctlL_force (ch : Nat → Bool) (ss : List Stmt) : ∀ ev ∈ ctlL ch ss, ev.isForce = true :=
  ctlL_heads ch ss ▸ heads_force ch (subL ss)

theorem ctlL_noCheck {ch : Nat → Bool} {ss : List Stmt} {l : Nat} : Ev.check l ∉ ctlL ch ss :=
  fun h => nomatch ctlL_force ch ss _ h

theorem mem_declEvents {ch : Nat → Bool} {d : Decl} {ev : Ev} (h : ev ∈ declEvents ch d) :
    (∃ lb rb l c stmts, d = .funcDecl (some (lb, rb, some (l, c), stmts)) ∧
      (ev = .single l c ∨ ev ∈ evL stmts ∨ ev ∈ ctlL ch stmts)) ∨
    (∃ vs, d = .genDecl vs ∧ ∃ x ∈ outerEs vs, ev ∈ globalLitEvents x ∨ ev ∈ globalLitCtl ch x) := by
  rcases d with ⟨_ | ⟨lb, rb, _ | ⟨l, c⟩, stmts⟩⟩ | vs
  · cases h
  · cases h
  · refine .inl ⟨lb, rb, l, c, stmts, rfl, ?_⟩
    rcases List.mem_append.1 h with h | h
    · rcases List.mem_append.1 h with h | h
      · exact .inl (List.mem_singleton.1 (List.mem_ite_nil_right.1 h).2)
      · exact .inr (.inl h)
    · exact .inr (.inr h)
  · refine .inr ⟨vs, rfl, ?_⟩
    rcases List.mem_append.1 h with h | h
    · exact (List.mem_flatMap.1 h).imp fun _ hx => ⟨hx.1, .inl hx.2⟩
    · exact (List.mem_flatMap.1 h).imp fun _ hx => ⟨hx.1, .inr hx.2⟩

/-- without a changed line (`ch = fun _ => false`, as in the `ctl*_false` lemmas) the control pass forces nothing -/
theorem declEvents_noForce (d : Decl) : ∀ ev ∈ declEvents (fun _ => false) d, ev.isForce = false := by
  intro ev h
  rcases mem_declEvents h with ⟨lb, rb, l, c, stmts, rfl, rfl | h | h⟩ | ⟨vs, rfl, x, hx, h | h⟩
  · rfl
  · exact evL_noForce stmts ev h
  · rw [ctlL_false] at h; cases h
  · exact globalLitEvents_noForce x ev h
  · cases x <;> simp [globalLitCtl, ctlL_false] at h

end GoatSpec
