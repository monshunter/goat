import GoatSpec.Splice
/-! `doInsert`: the first text pass against its specification, the delta array against the count of
    multi-line positions above each single-line position -/
namespace GoatSpec
variable {α : Type}

theorem spec1_nil (block : List α) (i : Nat) (src : List α) : spec1 block i src [] = src := by
  induction src generalizing i with
  | nil => rfl
  | cons s rest ih => simp [spec1, ih]

theorem spec1_drop_small {block : List α} {i x : Nat} {src : List α} {ps : List Nat} (hx : x < i + 1) :
    spec1 block i src (x :: ps) = spec1 block i src ps := by
  induction src generalizing i with
  | nil => rfl
  | cons s rest ih =>
    simp only [spec1, List.mem_cons, Nat.ne_of_gt hx, false_or]
    rw [ih (Nat.lt_succ_of_lt hx)]

theorem pass1_eq_spec1 (block : List α) (i : Nat) (src : List α) (ps : List Nat)
    (h : Incr (i+1) ps) : pass1 block i src ps = spec1 block i src ps := by
  induction src generalizing i ps with
  | nil => cases ps <;> rfl
  | cons s rest ih =>
    cases ps with
    | nil => simp [pass1, spec1_nil]
    | cons p ps =>
      rw [pass1, spec1]
      rcases Incr.head_cases h with ⟨rfl, h'⟩ | ⟨hi, h'⟩
      · rw [if_pos (Nat.add_sub_cancel ..).symm, if_pos List.mem_cons_self, ih _ _ h',
          spec1_drop_small (Nat.lt_succ_self _)]
      · rw [if_neg hi, if_neg (h'.not_mem (Nat.lt_succ_self _)), ih _ _ h']; rfl

theorem pass1_length (block : List α) (i : Nat) (src : List α) (ps : List Nat) (h : Incr (i+1) ps)
    (hn : ∀ p ∈ ps, p ≤ i + src.length) :
    (pass1 block i src ps).length = src.length + block.length * ps.length := by
  induction src generalizing i ps with
  | nil =>
    cases ps with
    | nil => rfl
    | cons p ps =>
      have : i + 1 ≤ i + 0 := Nat.le_trans h.1 (hn p List.mem_cons_self)
      exact absurd this (Nat.not_succ_le_self i)
  | cons s rest ih =>
    cases ps with
    | nil => simp [pass1]
    | cons p ps =>
      have hn' : ∀ q ∈ p :: ps, q ≤ i + 1 + rest.length := fun q hq =>
        Nat.le_trans (hn q hq) (Nat.le_of_eq (Nat.add_right_comm i rest.length 1))
      rw [pass1]
      rcases Incr.head_cases h with ⟨rfl, h'⟩ | ⟨hi, h'⟩
      · rw [if_pos (Nat.add_sub_cancel ..).symm, List.length_append, List.length_cons,
          ih _ _ h' fun q hq => hn' q (List.mem_cons_of_mem _ hq)]
        simp only [List.length_cons, Nat.mul_succ]; omega
      · rw [if_neg hi, List.length_cons, ih _ _ h' hn']
        simp only [List.length_cons]; omega

theorem spec1_filter (block : List α) (isBlock : α → Bool) (hb : ∀ b ∈ block, isBlock b = true)
    (i : Nat) (src : List α) (ps : List Nat) (hs : ∀ s ∈ src, isBlock s = false) :
    (spec1 block i src ps).filter (fun x => !isBlock x) = src := by
  have hblk : block.filter (fun x => !isBlock x) = [] :=
    List.filter_eq_nil_iff.mpr fun b hb' => by simp [hb b hb']
  induction src generalizing i with
  | nil => rfl
  | cons s rest ih =>
    obtain ⟨h1, hr⟩ := List.forall_mem_cons.mp hs
    rw [spec1, List.filter_append, List.filter_cons, h1, ih (i+1) hr]
    split <;> simp [hblk]

theorem pass1_length_zero (block src : List α) (ps : List Nat) (h : Incr 1 ps) (hn : ∀ p ∈ ps, p ≤ src.length) :
    (pass1 block 0 src ps).length = src.length + block.length * ps.length :=
  pass1_length block 0 src ps h fun p hp => (Nat.zero_add _).symm ▸ hn p hp

theorem spec1_length (block : List α) (i : Nat) (src : List α) (ps : List Nat) (h : Incr (i+1) ps)
    (hn : ∀ p ∈ ps, p ≤ i + src.length) :
    (spec1 block i src ps).length = src.length + block.length * ps.length :=
  pass1_eq_spec1 block i src ps h ▸ pass1_length block i src ps h hn

theorem pre_zeros (a : Nat) (r : List Nat) : pre a (r.map (fun _ => 0)) = r.map (fun _ => a) := by
  induction r generalizing a with
  | nil => rfl
  | cons x xs ih => simp [pre, ih]

theorem cntLe_nil (s : Nat) : cntLe [] s = 0 := rfl
theorem cntLe_cons_le {m s : Nat} {ms : List Nat} (h : m ≤ s) : cntLe (m :: ms) s = cntLe ms s + 1 := by
  simp [cntLe, List.filter, h]
theorem cntLe_cons_gt {m s : Nat} {ms : List Nat} (h : s < m) : cntLe (m :: ms) s = cntLe ms s := by
  simp [cntLe, List.filter, Nat.not_le_of_gt h]
theorem cntLe_all_gt {ms : List Nat} {lo s : Nat} (h : Incr lo ms) (hs : s < lo) : cntLe ms s = 0 := by
  rw [cntLe, List.length_eq_zero_iff, List.filter_eq_nil_iff]
  exact fun m hm => by simpa using Nat.lt_of_lt_of_le hs (h.ge hm)

/-- both exits of the loop (source or multi-line positions exhausted). Stated with
    `B * cntLe [] s` (= 0) to have the shape of `scan_spec`. -/
theorem pre_arrOf_exit (acc delta B : Nat) (ss : List Nat) :
    pre acc (arrOf (([] : List Nat), delta, ss)) = ss.map (fun s => acc + delta + B * cntLe [] s) := by
  cases ss with
  | nil => rfl
  | cons s t => simp [arrOf, pre, pre_zeros, cntLe_nil]

/-- The delta array, read through its prefix sums, moves every single-line position `s` still to
    come down by `acc` (the sum of the slots stored so far) `+ delta` (the block lines counted since
    the last stored slot) `+ B * cntLe ms s`: each multi-line position still to come that is `≤ s`
    puts a block of `B` lines above line `s`. -/
theorem scan_spec (B : Nat) (fuel i : Nat) (ms ss : List Nat) (delta acc : Nat)
    (hm : Incr (i+1) ms) (hs : Incr (i+1) ss) (hfuel : ∀ m ∈ ms, m ≤ i + fuel) :
    pre acc (arrOf (scan B fuel i ms ss delta)) = ss.map (fun s => acc + delta + B * cntLe ms s) := by
  induction fuel generalizing i ms ss delta acc with
  | zero =>
    cases ms with
    | nil => simpa [scan] using pre_arrOf_exit acc delta B ss
    | cons m t =>
      have : i + 1 ≤ i + 0 := Nat.le_trans hm.1 (hfuel m List.mem_cons_self)
      exact absurd this (Nat.not_succ_le_self i)
  | succ fuel ih =>
    cases ms with
    | nil => simpa [scan] using pre_arrOf_exit acc delta B ss
    | cons m ms =>
      -- one step for the multi-line positions: the new counter and list, and what they mean
      have key : ∃ delta1 ms1, delta1 = (if i = m - 1 then delta + B else delta) ∧
          ms1 = (if i = m - 1 then ms else m :: ms) ∧ Incr (i+1+1) ms1 ∧
          (∀ x ∈ ms1, x ≤ (i+1) + fuel) ∧
          (∀ s, i + 1 ≤ s → acc + delta + B * cntLe (m :: ms) s = acc + delta1 + B * cntLe ms1 s) := by
        have hf : ∀ x ∈ m :: ms, x ≤ i + 1 + fuel := fun x hx =>
          Nat.le_trans (hfuel x hx) (Nat.le_of_eq (Nat.add_right_comm i fuel 1))
        refine ⟨_, _, rfl, rfl, ?_⟩
        rcases Incr.head_cases hm with ⟨rfl, hm'⟩ | ⟨him, hm'⟩
        · -- `m` is this line: its block is counted and `m` leaves the list
          rw [if_pos (Nat.add_sub_cancel ..).symm, if_pos (Nat.add_sub_cancel ..).symm]
          refine ⟨hm', fun x hx => hf x (List.mem_cons_of_mem _ hx), fun s hs' => ?_⟩
          rw [cntLe_cons_le hs', Nat.mul_succ]; omega
        · rw [if_neg him, if_neg him]
          exact ⟨hm', hf, fun _ _ => rfl⟩
      obtain ⟨delta1, ms1, hd, hms1, hinc, hf1, hF⟩ := key
      rw [List.map_congr_left fun x hx => hF x (hs.ge hx)]
      cases ss with
      | nil => simpa [scan, ← hd, ← hms1] using ih (i+1) ms1 [] delta1 acc hinc trivial hf1
      | cons s t =>
        rcases Incr.head_cases hs with ⟨rfl, hs'⟩ | ⟨his, hs'⟩
        · -- a single-line position on this line: its slot is stored, the counter starts again
          have := ih (i+1) ms1 t 0 (acc + delta1) hinc hs' hf1
          simp only [scan, ← hd, ← hms1, Nat.add_sub_cancel, if_true]
          simp only [arrOf, List.cons_append, pre, List.map_cons] at this ⊢
          rw [this, cntLe_all_gt hinc (Nat.lt_succ_self _)]
          simp
        · simpa only [scan, ← hd, ← hms1, if_neg his] using ih (i+1) ms1 (s :: t) delta1 acc hinc hs' hf1

end GoatSpec
