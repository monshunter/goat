import GoatSpec.SkelSpec
/-! What the analyses mean is the limit of the Kleene iterates `iter n ⊥` of the skeleton transfer function. It is
monotone, so a fixed point whose entries satisfy `late ⊆ all` lies above every iterate; the facts the property
theorems draw from the table are upper bounds (at most these late steps, at most these variables, no unhooked
write, effect-free callees), so they hold of the limit too. -/
namespace GoatSpec.SkelSpec
open GoatSpec.Skeleton

/-- bit-mask inclusion -/
def Sub (a b : Nat) : Prop := ∀ i, a.testBit i = true → b.testBit i = true

theorem Sub.refl (a : Nat) : Sub a a := fun _ h => h
theorem Sub.trans {a b c : Nat} (h1 : Sub a b) (h2 : Sub b c) : Sub a c := fun i h => h2 i (h1 i h)
theorem Sub.zero {a : Nat} : Sub 0 a := fun i h => by simp at h
theorem Sub.lor {a b c d : Nat} (h1 : Sub a b) (h2 : Sub c d) : Sub (a ||| c) (b ||| d) := by
  intro i h
  rw [Nat.testBit_or, Bool.or_eq_true] at h ⊢
  exact h.imp (h1 i) (h2 i)
theorem Sub.lor_left {a b : Nat} : Sub a (a ||| b) := fun i h => by
  rw [Nat.testBit_or, h, Bool.true_or]
/-- the shape of the `late` updates of `callSum` and `.ext`: `a` once something is written, else `l`.
    `hla` is for the case that only the larger side has written -/
theorem Sub.ite {w1 w2 : Bool} {a1 a2 l1 l2 : Nat} (hw : w1 = true → w2 = true) (ha : Sub a1 a2)
    (hl : Sub l1 l2) (hla : Sub l2 a2) : Sub (if w1 then a1 else l1) (if w2 then a2 else l2) := by
  cases w1 with
  | true => simpa [hw rfl] using ha
  | false => cases w2 with
    | true => simpa using hl.trans hla
    | false => simpa using hl
theorem Sub.ite_le {w : Bool} {a l c : Nat} (ha : Sub a c) (hl : Sub l c) : Sub (if w then a else l) c := by
  split <;> assumption

/-- order on scan states. The order needs `late ⊆ all` of the entries of the larger table only
    (`Sub.ite` in `callSum_mono`); the same invariant of the larger state (`StWf`) rides along in
    `stepSk_mono`. -/
structure StLe (s t : St) : Prop where
  w : s.written = true → t.written = true
  all : Sub s.all t.all
  late : Sub s.late t.late
  refs : Sub s.refs t.refs

def StWf (s : St) : Prop := Sub s.late s.all

structure SumLe (a b : Sum) : Prop where
  w : a.w = true → b.w = true
  all : Sub a.all b.all
  late : Sub a.late b.late
  refs : Sub a.refs b.refs

def SumWf (a : Sum) : Prop := Sub a.late a.all

/-- through `getD`, so tables of different length compare too -/
def TblLe (t1 t2 : List Sum) : Prop := ∀ f, SumLe (t1.getD f {}) (t2.getD f {})
def TblWf (t : List Sum) : Prop := ∀ f, SumWf (t.getD f {})

theorem callSum_mono {t1 t2 : List Sum} (ht : TblLe t1 t2) (hw2 : TblWf t2) {s1 s2 : St} (hs : StLe s1 s2)
    (hwf : StWf s2) (f : Nat) : StLe (callSum t1 s1 f) (callSum t2 s2 f) ∧ StWf (callSum t2 s2 f) := by
  have hc := ht f
  refine ⟨{ w := ?_
            all := hs.all.lor hc.all
            late := hs.late.lor (.ite hs.w hc.all hc.late (hla := hw2 f))
            refs := hs.refs.lor hc.refs },
    hwf.lor (.ite_le (.refl _) (hw2 f))⟩
  simp only [callSum, Bool.or_eq_true]
  exact Or.imp hs.w hc.w

mutual
theorem stepSk_mono {t1 t2 : List Sum} (ht : TblLe t1 t2) (hw2 : TblWf t2) (x : Sk) :
    ∀ {s1 s2 : St}, StLe s1 s2 → StWf s2 → StLe (stepSk t1 s1 x) (stepSk t2 s2 x) ∧ StWf (stepSk t2 s2 x) := by
  intro s1 s2 hs hwf
  cases x <;> simp only [stepSk]
  case call f => exact callSum_mono ht hw2 hs hwf f
  case icall fs =>
    exact List.foldl_rel (r := fun s1 s2 => StLe s1 s2 ∧ StWf s2) ⟨hs, hwf⟩ fun f _ _ _ h => callSum_mono ht hw2 h.1 h.2 f
  case ext k =>
    exact ⟨{ hs with
             all := hs.all.lor (.refl _)
             late := .ite hs.w (hs.late.lor (.refl _)) hs.late (hla := .lor_left) },
      .ite_le (hwf.lor (.refl _)) (hwf.trans .lor_left)⟩
  case hook => exact ⟨hs, hwf⟩
  case write => exact ⟨{ hs with w := fun _ => rfl }, hwf⟩
  case ref => exact ⟨{ hs with refs := hs.refs.lor (.refl _) }, hwf⟩
  case loop body =>
    obtain ⟨h1, h2⟩ := stepL_mono ht hw2 body hs hwf
    exact stepL_mono ht hw2 body h1 h2
  case spawn body => exact stepL_mono ht hw2 body hs hwf
theorem stepL_mono {t1 t2 : List Sum} (ht : TblLe t1 t2) (hw2 : TblWf t2) (xs : List Sk) :
    ∀ {s1 s2 : St}, StLe s1 s2 → StWf s2 → StLe (stepL t1 s1 xs) (stepL t2 s2 xs) ∧ StWf (stepL t2 s2 xs) := by
  intro s1 s2 hs hwf
  cases xs <;> simp only [stepL]
  case nil => exact ⟨hs, hwf⟩
  case cons x r =>
    obtain ⟨h1, h2⟩ := stepSk_mono ht hw2 x hs hwf
    exact stepL_mono ht hw2 r h1 h2
end

theorem StLe.refl (s : St) : StLe s s := { w := id, all := .refl _, late := .refl _, refs := .refl _ }

theorem sumOf_mono {t1 t2 : List Sum} (ht : TblLe t1 t2) (hw2 : TblWf t2) {body : List Sk} :
    SumLe (sumOf t1 body) (sumOf t2 body) :=
  have h := (stepL_mono ht hw2 body (StLe.refl {}) (show StWf {} from Sub.refl 0)).1
  { w := h.w, all := h.all, late := h.late, refs := h.refs }

theorem getD_map {α β : Type} (g : α → β) (l : List α) (i : Nat) (d : α) :
    (l.map g).getD i (g d) = g (l.getD i d) := by
  simp only [List.getD_eq_getElem?_getD, List.getElem?_map, Option.getD_map]

/-- beyond the last body too: `sumOf t [] = {}` by evaluation -/
theorem getD_round (t : List Sum) (f : Nat) : (round t).getD f {} = sumOf t (bodies.getD f []) :=
  getD_map (sumOf t) bodies f []

theorem round_mono {t1 t2 : List Sum} (ht : TblLe t1 t2) (hw2 : TblWf t2) : TblLe (round t1) (round t2) := fun f => by
  rw [getD_round, getD_round]
  exact sumOf_mono ht hw2

def bottom : List Sum := bodies.map (fun _ => {})

theorem bottom_le (t : List Sum) : TblLe bottom t := fun f => by
  have : bottom.getD f {} = {} := getD_map (fun _ => ({} : Sum)) bodies f []
  rw [this]
  exact { w := nofun, all := Sub.zero, late := Sub.zero, refs := Sub.zero }

theorem iter_le_fixed (t : List Sum) (hfix : round t = t) (hwf : TblWf t) (n : Nat) : TblLe (iter n bottom) t := by
  suffices ∀ s, TblLe s t → TblLe (iter n s) t from this _ (bottom_le t)
  induction n with
  | zero => exact fun s hs => hs
  | succ k ih =>
    refine fun s hs => ih (round s) ?_
    rw [← hfix]
    exact round_mono hs hwf

theorem sub_of_and_eq {a b : Nat} (h : a &&& b = a) : Sub a b := fun i hi => by
  rw [← h, Nat.testBit_and, Bool.and_eq_true] at hi
  exact hi.2

theorem tblWf_of_all (t : List Sum) (h : t.all (fun s => s.late &&& s.all == s.late) = true) : TblWf t := by
  intro f
  simp only [List.getD_eq_getElem?_getD]
  cases hf : t[f]? with
  | none => exact Sub.refl _
  | some s => exact sub_of_and_eq (by simpa using List.all_eq_true.mp h s (List.mem_of_getElem? hf))

/-- what is left to the kernel: one round over the table (`isFixedPoint`) and `late ⊆ all` entry by entry -/
theorem table_sound (hfix : isFixedPoint = true) (hwf : tableWf = true) (n : Nat) : TblLe (iter n bottom) table := by
  simp only [isFixedPoint, Bool.and_eq_true, beq_iff_eq] at hfix
  obtain ⟨⟨hround, -⟩, -⟩ := hfix
  exact iter_le_fixed table hround (tblWf_of_all table hwf) n

end GoatSpec.SkelSpec
