import GoatSpec.Proofs.Legal
import GoatSpec.Proofs.Sort
/-! When the file scope sorts first, every other function scope is the brace pair of a block: `sortBy` is a permutation,
    and every function node that `funcNodes` (`FunctionScopesOfAST`) collects has its body among the blocks of `fileBlks`
    (`litsS` against `blksS`). -/
namespace GoatSpec

theorem sortBy_perm {α : Type} (key : α → Nat × Nat) (l : List α) : (sortBy key l).Perm l :=
  Insertion.sort_perm (insertBy key) (fun _ => rfl) (fun _ _ _ => rfl) l

/-- the body of the function node `n` is a block of `blks`: the same brace lines -/
def HasBlk (blks : List Blk) (n : FuncNode) : Prop := ∃ b ∈ blks, b.lo = n.lb ∧ b.hi = n.rb

theorem hasBlk_head {C : List Blk} {lb rb : Nat} {body : List Stmt} {st : List (Nat × Bool)} {hd : List Nat} :
    ∀ n ∈ [(⟨lb, rb, body⟩ : FuncNode)], HasBlk (⟨lb, rb, st, hd⟩ :: C) n :=
  List.forall_mem_singleton.2 ⟨_, List.mem_cons_self .., rfl, rfl⟩

/-- no inclusion of blocks: a plain else block stands in `elseBlks` with the header of its `if` and in `blksL els`
    without; `lo` and `hi` agree, which is all `HasBlk` reads -/
theorem blksL_sub_else {hdr : List Nat} (els : List Stmt) : ∀ n, HasBlk (blksL els) n → HasBlk (elseBlks hdr els) n := by
  intro n h
  unfold elseBlks
  split
  · next bl be b =>
    simp only [blksL, blksS, List.append_nil] at h
    obtain ⟨x, hx, h1⟩ := h
    rcases List.mem_cons.mp hx with rfl | hx
    · exact ⟨_, List.mem_cons_self .., h1⟩
    · exact ⟨x, List.mem_cons_of_mem _ hx, h1⟩
  · exact h

mutual
theorem litsE_blk (e : Expr) : ∀ n ∈ litsE e, HasBlk (blksE e) n := by
  cases e with
  | funcLit pl el lb rb first body => exact Wit.cons hasBlk_head (Wit.tail (litsL_blk body))
  | call x y | composite x y | keyValue x y => exact Wit.append (litsEs_blk x) (litsEs_blk y)
  | unary x | structType x | other x => exact litsEs_blk x
theorem litsEs_blk (es : List Expr) : ∀ n ∈ litsEs es, HasBlk (blksEs es) n := by
  cases es with
  | nil => exact Wit.nil
  | cons e r => exact Wit.append (litsE_blk e) (litsEs_blk r)
theorem litsS_blk (s : Stmt) : ∀ n ∈ litsS s, HasBlk (blksS s) n := by
  cases s with
  | simple k ln e pre ent post => exact Wit.append (Wit.append (litsEs_blk pre) (litsEs_blk ent)) (litsEs_blk post)
  | block ln e body => exact Wit.tail (litsL_blk body)
  | labeled ln e inner => exact litsS_blk inner
  | ifS ln e init ir cr cond lb rb body els =>
    rw [blksS_if]
    exact Wit.append (Wit.append (Wit.append (litsL_blk init) (litsEs_blk cond)) (Wit.tail (litsL_blk body)))
      (fun n hn => blksL_sub_else els n (litsL_blk els n hn))
  | forS ln e init ir cr pr cond post lb rb body =>
    exact Wit.append (Wit.append (Wit.append (litsL_blk init) (litsEs_blk cond)) (litsL_blk post)) (Wit.tail (litsL_blk body))
  | rangeS ln e kr vr xr kvx lb rb body => exact Wit.append (litsEs_blk kvx) (Wit.tail (litsL_blk body))
  | switchS ln e init ir tr tag lb rb cl =>
    exact Wit.append (Wit.append (litsL_blk init) (litsEs_blk tag)) (litsClauses_blk _ cl _)
  | typeSwitchS ln e init ir ar asg lb rb cl =>
    exact Wit.append (Wit.append (litsL_blk init) (litsL_blk asg)) (litsClauses_blk _ cl _)
  | selectS ln e lb rb cl => exact litsClauses_blk _ cl _
  | caseC ln e lr list colon body => exact Wit.append (litsEs_blk list) (litsL_blk body)
  | commC ln e cr comm colon body => exact Wit.append (litsL_blk comm) (litsL_blk body)
theorem litsClauses_blk (hdr : List Nat) (cl : List Stmt) (his : List Nat) :
    ∀ n ∈ litsL cl, HasBlk (blksClauses hdr cl his) n := by
  cases cl with
  | nil => exact Wit.nil
  | cons c r =>
    have ih := litsClauses_blk hdr r his.tail
    cases c with
    | caseC ln e lr list colon body => exact Wit.append (Wit.append (litsEs_blk list) (Wit.tail (litsL_blk body))) ih
    | commC ln e cr comm colon body => exact Wit.append (Wit.append (litsL_blk comm) (Wit.tail (litsL_blk body))) ih
    | _ => exact Wit.append (litsS_blk _) ih
theorem litsL_blk (ss : List Stmt) : ∀ n ∈ litsL ss, HasBlk (blksL ss) n := by
  cases ss with
  | nil => exact Wit.nil
  | cons s r => exact Wit.append (litsS_blk s) (litsL_blk r)
end

/-- the function nodes of one declaration, in the order of `funcNodes` -/
def declNodes : Decl → List FuncNode
  | .funcDecl none => []
  | .funcDecl (some (lb, rb, _, stmts)) => ⟨lb, rb, stmts⟩ :: litsL stmts
  | .genDecl vs => litsEs vs

theorem funcNodes_eq (ds : List Decl) : funcNodes ds = some (ds.flatMap declNodes) := by
  induction ds with
  | nil => rfl
  | cons d r ih =>
    match d with
    | .funcDecl none => exact ih
    | .funcDecl (some _) | .genDecl _ =>
      rw [funcNodes, ih]
      rfl

theorem declNodes_blk (d : Decl) : ∀ n ∈ declNodes d, HasBlk (declBlks d) n :=
  match d with
  | .funcDecl none => Wit.nil
  | .funcDecl (some (_, _, _, stmts)) => Wit.cons hasBlk_head (Wit.tail (litsL_blk stmts))
  | .genDecl vs => litsEs_blk vs

theorem funcNodes_blk {ds : List Decl} {ns : List FuncNode} (h : funcNodes ds = some ns) :
    ∀ n ∈ ns, HasBlk (ds.flatMap declBlks) n := by
  cases (funcNodes_eq ds).symm.trans h
  exact List.forall_mem_flatMap.2 fun d hd n hn =>
    exists_mem_mono (fun b hb => List.mem_flatMap.2 ⟨d, hd, hb⟩) (declNodes_blk d n hn)

/-- the file scope is the first function scope (the package clause precedes every function) -/
def headIsFile (f : File) : Bool :=
  match functionScopes f with
  | some (p :: _) => p == (f.pkgLine, f.endLine)
  | _ => false

theorem scopesOK_of_headIsFile (f : File) (h : headIsFile f = true) : scopesOK f = true := by
  unfold headIsFile at h
  unfold scopesOK
  cases hfs : functionScopes f with
  | none => simp [hfs] at h
  | some fs =>
    simp only [hfs] at h ⊢
    cases fs with
    | nil => simp at h
    | cons p t =>
      cases (beq_iff_eq.1 h : p = _)
      obtain ⟨ns, hns, hsort⟩ := Option.map_eq_some_iff.1 hfs
      -- sorting permutes, so the scopes after the file scope are those of the function nodes
      have ht : t.Perm (ns.map fun n => (n.lb, n.rb)) := (hsort ▸ sortBy_perm id _).cons_inv
      simp only [List.drop_one, List.tail_cons, List.all_eq_true, List.any_eq_true, Bool.and_eq_true, beq_iff_eq]
      intro q hq
      obtain ⟨n, hn, rfl⟩ := List.mem_map.1 (ht.mem_iff.1 hq)
      exact funcNodes_blk hns n hn

end GoatSpec
