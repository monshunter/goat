import GoatSpec.Layout
import GoatSpec.Proofs.Mark
import GoatSpec.Proofs.Walk
/-! Where events can point, on a file that meets `Layout.wfFile`. `skipComments` returns the *first* line at or after
    its start that is not comment-like, so a forced insert at `lo + 1` lands on the block's first boundary and a
    checked insert on a statement line stays there; every `check` event names a statement line of a block of
    `fileBlks` (or a statement of a function declared on one line, `OneLinerCheck`), every `force` event the line
    after the opening line of a branch block. -/
namespace GoatSpec

theorem isComment_of_codes {env : Env} {f : File} (hc : env.comments = commentArray f.lineCodes)
    (l : Nat) (h1 : 1 ≤ l) (h2 : l ≤ f.lineCodes.size) : env.isComment l = .ok (lineComment f l) := by
  obtain ⟨k, rfl⟩ := Nat.exists_eq_add_one.2 h1
  have hk : k < f.lineCodes.size := h2
  have hk' : k + 1 < 1 + f.lineCodes.size := by omega
  simp [Env.isComment, hc, commentArray, lineComment, codeAt, hk, hk']

/-- `m` is a statement boundary of `b`: the first line of one of its statements, or its closing line -/
structure Boundary (b : Blk) (m : Nat) : Prop where
  lo : b.lo < m
  hi : m ≤ b.hi
  on : m = b.hi ∨ m ∈ b.lines

/-- what `blkOK` says of a block with `lo < hi` -/
structure BlkFacts (f : File) (b : Blk) : Prop where
  lt : b.lo < b.hi
  line : ∀ l ∈ b.lines, Boundary b l
  first : Boundary b b.firstBoundary
  code : ∀ m, Boundary b m → lineComment f m = false
  size : b.hi ≤ f.lineCodes.size
  gap : ∀ j, b.lo < j → j < b.firstBoundary → lineComment f j = true

theorem blkOK_spec {f : File} {b : Blk} (hok : blkOK f b = true) (hlt : b.lo < b.hi) : BlkFacts f b := by
  simp only [blkOK, Bool.and_eq_true, Bool.or_eq_true, Bool.not_eq_true', decide_eq_false_iff_not,
    decide_eq_true_eq, List.all_eq_true, List.mem_range] at hok
  obtain ⟨⟨⟨hl, hhi⟩, hsz⟩, hgap⟩ := hok.2.resolve_left (fun h => h hlt)
  have line : ∀ l ∈ b.lines, Boundary b l := fun l h => ⟨(hl l h).1.1, (hl l h).1.2, .inr h⟩
  refine { lt := hlt, line := line, first := ?_, code := ?_, size := hsz, gap := fun j h1 h2 => ?_ }
  · unfold Blk.firstBoundary
    cases hs : b.stmts with
    | nil => exact ⟨hlt, Nat.le_refl _, .inl rfl⟩
    | cons p rest => exact line _ (by simp [Blk.lines, hs])
  · rintro m ⟨_, _, rfl | h⟩
    · exact hhi
    · exact (hl m h).2
  · have := hgap (j - (b.lo + 1)) (Nat.sub_lt_sub_right h1 h2)
    rwa [Nat.add_sub_cancel' h1] at this

theorem BlkFacts.isComment {env : Env} {f : File} {b : Blk} (k : BlkFacts f b)
    (hc : env.comments = commentArray f.lineCodes) {m : Nat} (h : Boundary b m) : env.isComment m = .ok false := by
  rw [isComment_of_codes hc m (Nat.zero_lt_of_lt h.lo) (Nat.le_trans h.hi k.size), k.code m h]

theorem legalLine_of {f : File} {b : Blk} (hb : b ∈ fileBlks f) {m : Nat} (h : Boundary b m) : legalLine f m = true := by
  unfold legalLine
  rw [List.any_eq_true]
  refine ⟨b, hb, ?_⟩
  simp only [Bool.and_eq_true, decide_eq_true_eq, Bool.or_eq_true, beq_iff_eq, List.contains_iff_mem]
  exact ⟨⟨h.lo, h.hi⟩, h.on⟩

/-- both are the first line after the opening line that is not comment-like -/
theorem force_target_eq {env : Env} {f : File} {b : Blk} (k : BlkFacts f b)
    (hc : env.comments = commentArray f.lineCodes) {fuel r : Nat} (h : skipComments env fuel (b.lo + 1) = .ok r) :
    r = b.firstBoundary := by
  obtain ⟨hr, hlo⟩ := skipComments_spec env fuel _ r h
  rcases Nat.lt_trichotomy r b.firstBoundary with hlt' | heq | hgt
  · have h1 : 1 ≤ r := Nat.le_of_add_left_le hlo
    have h2 : r ≤ f.lineCodes.size := Nat.le_trans (Nat.le_of_lt hlt') (Nat.le_trans k.first.hi k.size)
    have := isComment_of_codes hc r h1 h2
    rw [hr, k.gap r hlo hlt'] at this; cases this
  · exact heq
  · have := k.isComment hc k.first
    rw [skipComments_first env fuel _ r h b.firstBoundary k.first.lo hgt] at this; cases this

theorem force_lands {env : Env} {f : File} {b : Blk} (k : BlkFacts f b)
    (hc : env.comments = commentArray f.lineCodes) :
    skipComments env (env.comments.size + 1) (b.lo + 1) = .ok b.firstBoundary := by
  have hfb := k.isComment hc k.first
  -- the loop stops on the first boundary at the latest, and the fuel reaches that far
  have hd : b.firstBoundary - (b.lo + 1) < env.comments.size + 1 :=
    Nat.lt_succ_of_lt (Nat.sub_lt_of_lt (Env.lt_of_isComment hfb))
  have hstop : env.isComment (b.lo + 1 + (b.firstBoundary - (b.lo + 1))) = .ok false := by
    rwa [Nat.add_sub_cancel' k.first.lo]
  obtain ⟨r, hr⟩ := skipComments_exists env _ _ _ hd hstop
  rw [hr, force_target_eq k hc hr]

theorem check_target_eq {env : Env} {f : File} {b : Blk} (k : BlkFacts f b)
    (hc : env.comments = commentArray f.lineCodes) {l : Nat} (hl : l ∈ b.lines) {fuel r : Nat}
    (h : skipComments env (fuel+1) l = .ok r) : r = l := by
  rw [skipComments_id env fuel l (k.isComment hc (k.line l hl))] at h
  cases h; rfl

theorem force_target_legal (env : Env) (f : File) (hc : env.comments = commentArray f.lineCodes)
    (b : Blk) (hb : b ∈ fileBlks f) (hok : blkOK f b = true) (hlt : b.lo < b.hi)
    (fuel r : Nat) (h : skipComments env fuel (b.lo + 1) = .ok r) : legalLine f r = true := by
  have k := blkOK_spec hok hlt
  rw [force_target_eq k hc h]
  exact legalLine_of hb k.first

theorem check_target_legal (env : Env) (f : File) (hc : env.comments = commentArray f.lineCodes)
    (b : Blk) (hb : b ∈ fileBlks f) (hok : blkOK f b = true) (hlt : b.lo < b.hi)
    (l : Nat) (hl : l ∈ b.lines) (fuel r : Nat) (h : skipComments env (fuel+1) l = .ok r) :
    legalLine f r = true := by
  have k := blkOK_spec hok hlt
  rw [check_target_eq k hc hl h]
  exact legalLine_of hb (k.line l hl)

/-- a block the walk can reach: delimiters on different lines, or a branch of a control statement -/
def Multi (b : Blk) : Prop := b.lo ≠ b.hi ∨ b.header ≠ []

/-- `l` is a statement line of a block of `blks` that the walk can reach -/
def CheckOK (blks : List Blk) (l : Nat) : Prop := ∃ b ∈ blks, l ∈ b.lines ∧ Multi b

/-- `l` is the line after the opening line of a branch block of `blks` -/
def ForceOK (blks : List Blk) (l : Nat) : Prop := ∃ b ∈ blks, l = b.lo + 1 ∧ b.header ≠ []

/-- every `f c` among `xs` has a witness among the blocks `B`. The statements of `chk*`, `frc*` and `lits*_blk` never
    mention `Wit`: `∀ l, Ev.check l ∈ evs → CheckOK B l` (likewise `ForceOK`, `HasBlk`) unfolds by definition to this
    shape and unification finds `f := Ev.check` (`Ev.force`, `id`) and `Q`, so the lemmas below apply to such goals as
    they stand. The traversals build their event lists and `blksS` its blocks by the same appends: `Wit.append` and its
    kin carry a proof through a node. -/
def Wit {β γ : Type} (f : γ → β) (Q : Blk → γ → Prop) (xs : List β) (B : List Blk) : Prop :=
  ∀ c, f c ∈ xs → ∃ b ∈ B, Q b c

section
variable {β γ : Type} {f : γ → β} {Q : Blk → γ → Prop} {xs ys : List β} {A B : List Blk}

theorem exists_mem_mono {P : Blk → Prop} (hs : ∀ b ∈ A, b ∈ B) : (∃ b ∈ A, P b) → ∃ b ∈ B, P b :=
  fun ⟨b, hb, hp⟩ => ⟨b, hs b hb, hp⟩
theorem Wit.nil : Wit f Q [] B := fun _ h => nomatch h
theorem Wit.mono (h : Wit f Q xs A) (hs : ∀ b ∈ A, b ∈ B) : Wit f Q xs B :=
  fun c hc => exists_mem_mono hs (h c hc)
theorem Wit.union (h1 : Wit f Q xs B) (h2 : Wit f Q ys B) : Wit f Q (xs ++ ys) B :=
  fun c hc => (List.mem_append.1 hc).elim (h1 c) (h2 c)
theorem Wit.cons {x : β} (h1 : Wit f Q [x] B) (h2 : Wit f Q xs B) : Wit f Q (x :: xs) B := h1.union h2
theorem Wit.inl (h : Wit f Q xs A) : Wit f Q xs (A ++ B) := h.mono fun _ => List.mem_append_left _
theorem Wit.inr (h : Wit f Q xs B) : Wit f Q xs (A ++ B) := h.mono fun _ => List.mem_append_right _
theorem Wit.tail {a : Blk} (h : Wit f Q xs B) : Wit f Q xs (a :: B) := h.mono fun _ => List.mem_cons_of_mem _
theorem Wit.append (h1 : Wit f Q xs A) (h2 : Wit f Q ys B) : Wit f Q (xs ++ ys) (A ++ B) :=
  h1.inl.union h2.inr
theorem Wit.ite {c : Prop} [Decidable c] (h1 : Wit f Q xs B) (h2 : Wit f Q ys B) : Wit f Q (if c then xs else ys) B := by
  split
  · exact h1
  · exact h2
end

/-- lines at which the walk emits a `check` for the statement itself -/
def ownLines : Stmt → List Nat
  | .simple .mark l _ _ _ _ => [l]
  | .simple (.decl _) l _ _ _ _ => [l]
  | .simple .noMark _ _ _ _ _ => []
  | .block l _ _ => [l]
  | .labeled _ _ inner => ownLines inner
  | _ => []

theorem ownLines_sub (s : Stmt) : ∀ l ∈ ownLines s, l ∈ (stmtEntries s).map (·.1) := by
  cases s with
  | labeled l e inner => exact fun x hx => List.mem_cons_of_mem _ (ownLines_sub inner x hx)
  | simple k =>
    cases k with
    | noMark => exact List.forall_mem_nil _
    | _ => exact fun _ h => h
  | block => exact fun _ h => h
  | _ => exact List.forall_mem_nil _

theorem entriesOf_cons (s : Stmt) (r : List Stmt) : entriesOf (s :: r) = stmtEntries s ++ entriesOf r := rfl

/-- a name for the anonymous `match els with` at the end of `blksS (.ifS …)`, to state lemmas about it (`blksS_if`) -/
def elseBlks (hdr : List Nat) (els : List Stmt) : List Blk :=
  match els with
  | [.block bl be b] => ⟨bl, be, entriesOf b, hdr⟩ :: blksL b
  | other => blksL other

theorem blksS_if (ln e : Nat) (init : List Stmt) (ir cr : ORng) (cond : List Expr) (lb rb : Nat) (body els : List Stmt) :
    blksS (.ifS ln e init ir cr cond lb rb body els) =
      blksL init ++ blksEs cond ++ (⟨lb, rb, entriesOf body, ln :: (rngLines ir ++ rngLines cr)⟩ :: blksL body) ++
        elseBlks (ln :: (rngLines ir ++ rngLines cr)) els := by
  unfold elseBlks
  split
  · rw [blksS]
  -- the equation of `blksS` for the catch-all arm asks that `els` is no single block
  · next h => rw [blksS]; exact fun bl be b hh => h bl be b hh

theorem chk_close {evs : List Ev} {B : List Blk} {lo hi : Nat} {hd : List Nat} {ss : List Stmt}
    (h : ∀ l, Ev.check l ∈ evs → l ∈ (entriesOf ss).map (·.1) ∨ CheckOK B l) (hm : Multi ⟨lo, hi, entriesOf ss, hd⟩) :
    ∀ l, Ev.check l ∈ evs → CheckOK (⟨lo, hi, entriesOf ss, hd⟩ :: B) l :=
  fun l hl => (h l hl).elim (fun h1 => ⟨_, List.mem_cons_self .., h1, hm⟩)
    (exists_mem_mono fun _ => List.mem_cons_of_mem _)

/-! A statement's own check line is a statement line of the ENCLOSING block, which only the caller knows: `chkS` and
    `chkL` leave it as the first alternative of their conclusion, and whoever puts the list into its block closes it
    (`chk_close`). -/
mutual
theorem chkE (e : Expr) (hs : shapeE e = true) : ∀ l, Ev.check l ∈ evE e → CheckOK (blksE e) l := by
  cases e with
  | funcLit pl el lb rb first body =>
    simp only [shapeE, Bool.and_eq_true, Bool.or_eq_true, bne_iff_ne, ne_eq, beq_iff_eq] at hs
    cases first with
    | none => exact Wit.nil  -- an empty body: `evE` of the literal is `[]`
    | some p =>
      obtain ⟨fl, fc⟩ := p
      simp only [evE]; split
      · simp
      · next hne => exact chk_close (chkL body hs.2) (.inl (hs.1.resolve_right (by simpa using hne)))
  | call fn args =>
    simp only [shapeE, Bool.and_eq_true] at hs
    exact Wit.append (chkEs fn hs.1) (chkEs args hs.2)
  | composite _ x | keyValue _ x =>
    simp only [shapeE, Bool.and_eq_true] at hs
    exact Wit.inr (chkEs x hs.2)
  | unary x | structType x => exact chkEs x hs
  | other cs => exact Wit.nil
theorem chkEs (es : List Expr) (hs : shapeEs es = true) : ∀ l, Ev.check l ∈ evEs es → CheckOK (blksEs es) l := by
  cases es with
  | nil => exact Wit.nil
  | cons e r =>
    simp only [shapeEs, Bool.and_eq_true] at hs
    exact Wit.append (chkE e hs.1) (chkEs r hs.2)
theorem chkS (s : Stmt) (hs : shapeS s = true) :
    ∀ l, Ev.check l ∈ evS s → l ∈ ownLines s ∨ CheckOK (blksS s) l := by
  cases s with
  | simple k ln e pre ent post =>
    simp only [shapeS, Bool.and_eq_true] at hs
    obtain ⟨⟨_, hent⟩, _⟩ := hs
    cases k with
    | mark =>
      intro l h
      rcases List.mem_cons.mp h with h | h
      · cases h; exact .inl (List.mem_singleton_self _)
      · exact .inr (Wit.inl (Wit.inr (chkEs ent hent)) l h)
    | noMark => exact fun l h => nomatch h
    | decl n => exact fun l h => .inl (by cases List.eq_of_mem_replicate h; exact List.mem_singleton_self _)
  | block ln e body =>
    simp only [shapeS, Bool.and_eq_true, Bool.or_eq_true, bne_iff_ne, ne_eq] at hs
    intro l h
    rcases List.mem_cons.mp h with h | h
    · cases h; exact .inl (List.mem_singleton_self _)
    · cases body with
      | nil => cases h
      | cons s r => exact .inr (chk_close (chkL _ hs.2) (.inl (hs.1.resolve_left Bool.false_ne_true)) l h)
  | labeled ln e inner => exact chkS inner hs
  | ifS ln e init ir cr cond lb rb body els =>
    simp only [shapeS, Bool.and_eq_true] at hs
    obtain ⟨⟨_, hb⟩, he⟩ := hs
    rw [blksS_if]
    exact fun l h => .inr (Wit.append (Wit.inr (chk_close (chkL body hb) (.inr (List.cons_ne_nil _ _))))
      (chkElse els he _ (List.cons_ne_nil _ _)) l h)
  | forS | rangeS =>
    simp only [shapeS, Bool.and_eq_true] at hs
    exact fun l h => .inr (Wit.inr (chk_close (chkL _ hs.2) (.inr (List.cons_ne_nil _ _))) l h)
  | switchS | typeSwitchS =>
    simp only [shapeS, Bool.and_eq_true] at hs
    exact fun l h => .inr (Wit.inr (chkCases _ hs.2 _ _) l h)
  | selectS ln e lb rb cl => exact fun l h => .inr (chkComms cl hs _ _ l h)
  | caseC | commC => simp [shapeS] at hs
theorem chkElse (els : List Stmt) (hs : shapeElse els = true) (hdr : List Nat) (hh : hdr ≠ []) :
    ∀ l, Ev.check l ∈ evElse els → CheckOK (elseBlks hdr els) l := by
  cases els with
  | nil => exact Wit.nil
  | cons s r =>
    cases r with
    | cons s2 r2 => simp [shapeElse] at hs
    | nil =>
      cases s with
      | block bl be b => exact chk_close (chkL b hs) (.inr hh)
      | ifS ln e init ir cr cond lb rb body els2 =>
        -- an else-if `s`: `ownLines s = []`, and `elseBlks hdr [s] = blksL [s] = blksS s ++ []`
        exact Wit.inl fun l h => (chkS _ hs l h).resolve_left List.not_mem_nil
      | _ => simp [shapeElse] at hs
theorem chkCases (cl : List Stmt) (hs : shapeCases cl = true) (hdr : List Nat) (his : List Nat) :
    ∀ l, Ev.check l ∈ evL cl → CheckOK (blksClauses hdr cl his) l := by
  cases cl with
  | nil => exact Wit.nil
  | cons c r =>
    cases c with
    | caseC ln e lr list colon body =>
      simp only [shapeCases, Bool.and_eq_true] at hs
      obtain ⟨⟨_, hb⟩, hr⟩ := hs
      exact Wit.append (Wit.inr (chk_close (chkL body hb) (.inr (by simp)))) (chkCases r hr hdr his.tail)
    | _ => simp [shapeCases] at hs
theorem chkComms (cl : List Stmt) (hs : shapeComms cl = true) (hdr : List Nat) (his : List Nat) :
    ∀ l, Ev.check l ∈ evL cl → CheckOK (blksClauses hdr cl his) l := by
  cases cl with
  | nil => exact Wit.nil
  | cons c r =>
    cases c with
    | commC ln e cr comm colon body =>
      simp only [shapeComms, Bool.and_eq_true] at hs
      obtain ⟨⟨_, hb⟩, hr⟩ := hs
      exact Wit.append (Wit.inr (chk_close (chkL body hb) (.inr (List.cons_ne_nil _ _)))) (chkComms r hr hdr his.tail)
    | _ => simp [shapeComms] at hs
theorem chkL (ss : List Stmt) (hs : shapeBody ss = true) :
    ∀ l, Ev.check l ∈ evL ss → l ∈ (entriesOf ss).map (·.1) ∨ CheckOK (blksL ss) l := by
  cases ss with
  | nil => exact fun l h => nomatch h
  | cons s r =>
    simp only [shapeBody, Bool.and_eq_true] at hs
    simp only [entriesOf_cons, List.map_append, List.mem_append]
    intro l h
    rcases List.mem_append.mp h with h | h
    · exact (chkS s hs.1 l h).imp (fun h1 => .inl (ownLines_sub s l h1)) (exists_mem_mono fun _ => List.mem_append_left _)
    · exact (chkL r hs.2 l h).imp .inr (exists_mem_mono fun _ => List.mem_append_right _)
end

theorem force_head {C : List Blk} {lo hi : Nat} {st : List (Nat × Bool)} {hd : List Nat} (hh : hd ≠ []) :
    ∀ l, Ev.force l ∈ [Ev.force (lo + 1)] → ForceOK (⟨lo, hi, st, hd⟩ :: C) l := by
  intro l hl
  cases List.mem_singleton.1 hl
  exact ⟨_, List.mem_cons_self .., rfl, hh⟩

theorem elseForce_ok {hdr : List Nat} (hh : hdr ≠ []) (els : List Stmt) :
    ∀ l, Ev.force l ∈ WalkSpec.elseForce els → ForceOK (elseBlks hdr els) l := by
  unfold WalkSpec.elseForce
  split
  · exact Wit.ite .nil (force_head hh)
  · exact Wit.nil

theorem clauseForces_ok {hdr : List Nat} (cl : List Stmt) : ∀ (his : List Nat),
    ∀ l, Ev.force l ∈ clauseForces cl → ForceOK (blksClauses hdr cl his) l := by
  induction cl with
  | nil => exact fun _ => Wit.nil
  | cons c r ih =>
    intro his
    cases c with
    | caseC ln e lr list colon body =>
      exact Wit.append (Wit.inr (Wit.ite .nil (force_head (by simp)))) (ih his.tail)
    | _ => exact Wit.inr (ih his.tail)

theorem ctlHead_ok (ch : Nat → Bool) (s : Stmt) (hs : shapeS s = true) :
    ∀ l, Ev.force l ∈ WalkSpec.ctlHead ch s → ForceOK (blksS s) l := by
  cases s with
  | ifS ln e init ir cr cond lb rb body els =>
    rw [blksS_if]
    -- events: `force (lb + 1) :: elseForce els` or `[]`; blocks: `(… ++ (⟨lb, …⟩ :: blksL body)) ++ elseBlks _ els`
    have hh : ln :: (rngLines ir ++ rngLines cr) ≠ [] := List.cons_ne_nil _ _
    exact Wit.ite (Wit.cons (Wit.inl (Wit.inr (force_head hh))) (Wit.inr (elseForce_ok hh els))) .nil
  | forS | rangeS => exact Wit.ite (Wit.inr (force_head (List.cons_ne_nil _ _))) .nil
  | switchS | typeSwitchS => exact Wit.ite (Wit.inr (clauseForces_ok _ _)) .nil
  | caseC | commC => simp [shapeS] at hs
  | _ => exact Wit.nil

mutual
theorem frcE (ch : Nat → Bool) (e : Expr) (hs : shapeE e = true) : ∀ l, Ev.force l ∈ ctlE ch e → ForceOK (blksE e) l := by
  cases e with
  | funcLit pl el lb rb first body =>
    simp only [shapeE, Bool.and_eq_true] at hs
    exact Wit.tail (frcL ch body hs.2)
  | call x y | composite x y | keyValue x y =>
    simp only [shapeE, Bool.and_eq_true] at hs
    exact Wit.append (frcEs ch x hs.1) (frcEs ch y hs.2)
  | unary x | structType x | other x => exact frcEs ch x hs
theorem frcEs (ch : Nat → Bool) (es : List Expr) (hs : shapeEs es = true) : ∀ l, Ev.force l ∈ ctlEs ch es → ForceOK (blksEs es) l := by
  cases es with
  | nil => exact Wit.nil
  | cons e r =>
    simp only [shapeEs, Bool.and_eq_true] at hs
    exact Wit.append (frcE ch e hs.1) (frcEs ch r hs.2)
theorem frcS (ch : Nat → Bool) (s : Stmt) (hs : shapeS s = true) : ∀ l, Ev.force l ∈ ctlS ch s → ForceOK (blksS s) l := by
  rw [ctlS_eq]
  refine Wit.union (ctlHead_ok ch s hs) ?_
  cases s with
  | simple k ln e pre ent post =>
    simp only [shapeS, Bool.and_eq_true] at hs
    obtain ⟨⟨h1, h2⟩, h3⟩ := hs
    exact Wit.append (Wit.append (frcEs ch pre h1) (frcEs ch ent h2)) (frcEs ch post h3)
  | block ln e body =>
    simp only [shapeS, Bool.and_eq_true] at hs
    exact Wit.tail (frcL ch body hs.2)
  | labeled ln e inner => exact frcS ch inner hs
  | ifS ln e init ir cr cond lb rb body els =>
    simp only [shapeS, Bool.and_eq_true] at hs
    obtain ⟨⟨⟨hi, hc⟩, hb⟩, he⟩ := hs
    rw [blksS_if]
    exact Wit.append (Wit.append (Wit.append (frcL ch init hi) (frcEs ch cond hc))
      (Wit.tail (frcL ch body hb))) (frcElse ch els he _)
  | forS ln e init ir cr pr cond post lb rb body =>
    simp only [shapeS, Bool.and_eq_true] at hs
    obtain ⟨⟨⟨hi, hc⟩, hp⟩, hb⟩ := hs
    exact Wit.append (Wit.append (Wit.append (frcL ch init hi) (frcEs ch cond hc))
      (frcL ch post hp)) (Wit.tail (frcL ch body hb))
  | rangeS ln e kr vr xr kvx lb rb body =>
    simp only [shapeS, Bool.and_eq_true] at hs
    exact Wit.append (frcEs ch kvx hs.1) (Wit.tail (frcL ch body hs.2))
  | switchS ln e init ir tr tag lb rb cl =>
    simp only [shapeS, Bool.and_eq_true] at hs
    obtain ⟨⟨hi, ht⟩, hcl⟩ := hs
    exact Wit.append (Wit.append (frcL ch init hi) (frcEs ch tag ht)) (frcCases ch cl hcl _ _)
  | typeSwitchS ln e init ir ar asg lb rb cl =>
    simp only [shapeS, Bool.and_eq_true] at hs
    obtain ⟨⟨hi, ha⟩, hcl⟩ := hs
    exact Wit.append (Wit.append (frcL ch init hi) (frcL ch asg ha)) (frcCases ch cl hcl _ _)
  | selectS ln e lb rb cl => exact frcComms ch cl hs _ _
  | caseC | commC => simp [shapeS] at hs
theorem frcElse (ch : Nat → Bool) (els : List Stmt) (hs : shapeElse els = true) (hdr : List Nat) :
    ∀ l, Ev.force l ∈ ctlL ch els → ForceOK (elseBlks hdr els) l := by
  cases els with
  | nil => exact Wit.nil
  | cons s r =>
    cases r with
    | cons s2 r2 => simp [shapeElse] at hs
    | nil =>
      -- `ctlL ch [s] = ctlS ch s ++ []`; for an else-if `s`, `elseBlks hdr [s] = blksS s ++ []`
      cases s with
      | block bl be b => exact Wit.union (Wit.tail (frcL ch b hs)) .nil
      | ifS ln e init ir cr cond lb rb body els2 => exact Wit.append (frcS ch _ hs) .nil
      | _ => simp [shapeElse] at hs
theorem frcCases (ch : Nat → Bool) (cl : List Stmt) (hs : shapeCases cl = true) (hdr : List Nat) (his : List Nat) :
    ∀ l, Ev.force l ∈ ctlL ch cl → ForceOK (blksClauses hdr cl his) l := by
  cases cl with
  | nil => exact Wit.nil
  | cons c r =>
    cases c with
    | caseC ln e lr list colon body =>
      simp only [shapeCases, Bool.and_eq_true] at hs
      obtain ⟨⟨hl, hb⟩, hr⟩ := hs
      -- events: `(head ++ ctlEs ch list ++ ctlL ch body) ++ ctlL ch r`; blocks:
      -- `(blksEs list ++ (⟨colon, …⟩ :: blksL body)) ++ blksClauses hdr r his.tail`
      exact Wit.append (Wit.union (Wit.union
        (Wit.ite (Wit.inr (force_head (by simp))) .nil)
        (Wit.inl (frcEs ch list hl))) (Wit.inr (Wit.tail (frcL ch body hb)))) (frcCases ch r hr hdr his.tail)
    | _ => simp [shapeCases] at hs
theorem frcComms (ch : Nat → Bool) (cl : List Stmt) (hs : shapeComms cl = true) (hdr : List Nat) (his : List Nat) :
    ∀ l, Ev.force l ∈ ctlL ch cl → ForceOK (blksClauses hdr cl his) l := by
  cases cl with
  | nil => exact Wit.nil
  | cons c r =>
    cases c with
    | commC ln e cr comm colon body =>
      simp only [shapeComms, Bool.and_eq_true] at hs
      obtain ⟨⟨hc, hb⟩, hr⟩ := hs
      exact Wit.append (Wit.union (Wit.union
        (Wit.ite (Wit.inr (force_head (List.cons_ne_nil _ _))) .nil)
        (Wit.inl (frcL ch comm hc))) (Wit.inr (Wit.tail (frcL ch body hb)))) (frcComms ch r hr hdr his.tail)
    | _ => simp [shapeComms] at hs
theorem frcL (ch : Nat → Bool) (ss : List Stmt) (hs : shapeBody ss = true) : ∀ l, Ev.force l ∈ ctlL ch ss → ForceOK (blksL ss) l := by
  cases ss with
  | nil => exact Wit.nil
  | cons s r =>
    simp only [shapeBody, Bool.and_eq_true] at hs
    exact Wit.append (frcS ch s hs.1) (frcL ch r hs.2)
end

/-- `P`, `Q`: the two conjuncts of `outerE_sub` that do not speak of blocks -/
theorem outer_append {P Q : Expr → Prop} {X Y : List Expr} {A B : List Blk}
    (h1 : ∀ x ∈ X, P x ∧ Q x ∧ ∀ b ∈ blksE x, b ∈ A) (h2 : ∀ x ∈ Y, P x ∧ Q x ∧ ∀ b ∈ blksE x, b ∈ B) :
    ∀ x ∈ X ++ Y, P x ∧ Q x ∧ ∀ b ∈ blksE x, b ∈ A ++ B :=
  List.forall_mem_append.2
    ⟨fun x h => (h1 x h).imp_right (And.imp_right fun h3 b hb => List.mem_append_left _ (h3 b hb)),
     fun x h => (h2 x h).imp_right (And.imp_right fun h3 b hb => List.mem_append_right _ (h3 b hb))⟩

mutual
theorem outerE_sub (e : Expr) (hs : shapeE e = true) : ∀ x ∈ outerE e,
    shapeE x = true ∧ (∃ pl el lb rb first body, x = .funcLit pl el lb rb first body) ∧ ∀ b ∈ blksE x, b ∈ blksE e := by
  cases e with
  | funcLit pl el lb rb first body =>
    simp only [outerE, List.mem_singleton, forall_eq]
    exact ⟨hs, ⟨_, _, _, _, _, _, rfl⟩, fun _ hb => hb⟩
  | call x y | composite x y | keyValue x y =>
    simp only [shapeE, Bool.and_eq_true] at hs
    exact outer_append (outerEs_sub x hs.1) (outerEs_sub y hs.2)
  | unary x | structType x | other x => exact outerEs_sub x hs
theorem outerEs_sub (es : List Expr) (hs : shapeEs es = true) : ∀ x ∈ outerEs es,
    shapeE x = true ∧ (∃ pl el lb rb first body, x = .funcLit pl el lb rb first body) ∧ ∀ b ∈ blksE x, b ∈ blksEs es := by
  cases es with
  | nil => exact List.forall_mem_nil _
  | cons e r =>
    simp only [shapeEs, Bool.and_eq_true] at hs
    exact outer_append (outerE_sub e hs.1) (outerEs_sub r hs.2)
end

/-- `l` is checked by the statement walk of a function declaration whose body is on one line (the one case in which a
    `check` event names no statement line of a block: `oneLiner_outside` deals with it) -/
def OneLinerCheck (d : Decl) (l : Nat) : Prop :=
  ∃ lb rb first stmts, d = .funcDecl (some (lb, rb, first, stmts)) ∧ lb = rb ∧ Ev.check l ∈ evL stmts

theorem decl_check {ch : Nat → Bool} (d : Decl) (hs : shapeD d = true) :
    ∀ l, Ev.check l ∈ declEvents ch d → CheckOK (declBlks d) l ∨ OneLinerCheck d l := by
  intro l h
  rcases mem_declEvents h with ⟨lb, rb, fl, fc, stmts, rfl, h | h | h⟩ | ⟨vs, rfl, x, hx, h⟩
  · cases h
  · by_cases hlr : lb = rb
    · exact .inr ⟨lb, rb, _, stmts, rfl, hlr, h⟩
    · exact .inl (chk_close (chkL stmts hs) (.inl hlr) l h)
  · exact absurd h ctlL_noCheck
  · obtain ⟨h1, ⟨pl, el, lb, rb, first, body, rfl⟩, h3⟩ := outerEs_sub vs hs x hx
    rcases h with h | h
    · simp only [shapeE, Bool.and_eq_true] at h1
      -- `processGlobalValueSpecs` treats the literal as `analyzeAndModifyExpr` treats one whose Pos/End lines are its
      -- brace lines
      have hsh : shapeE (.funcLit lb rb lb rb first body) = true := by simp [shapeE, h1.2, Decidable.not_or_self]
      exact .inl (exists_mem_mono h3 (chkE _ hsh l h))
    · exact absurd h ctlL_noCheck

theorem decl_force {ch : Nat → Bool} (d : Decl) (hs : shapeD d = true) :
    ∀ l, Ev.force l ∈ declEvents ch d → ForceOK (declBlks d) l := by
  intro l h
  rcases mem_declEvents h with ⟨lb, rb, fl, fc, stmts, rfl, h | h | h⟩ | ⟨vs, rfl, x, hx, h | h⟩
  · cases h
  · exact nomatch evL_noForce stmts _ h
  · exact Wit.tail (frcL ch stmts hs) l h
  · exact nomatch globalLitEvents_noForce x _ h
  · obtain ⟨h1, ⟨pl, el, lb, rb, first, body, rfl⟩, h3⟩ := outerEs_sub vs hs x hx
    exact exists_mem_mono h3 (frcE ch _ h1 l h)

theorem wfFile_spec {f : File} (hwf : wfFile f = true) :
    (∀ d ∈ f.decls, shapeD d = true) ∧ (∀ b ∈ fileBlks f, blkOK f b = true ∧ forcedOK b = true)
      ∧ oneLinersOK f = true := by
  simpa [wfFile, and_assoc] using hwf

theorem wf_multi {f : File} (hwf : wfFile f = true) {b : Blk} (hb : b ∈ fileBlks f) (hm : Multi b) : BlkFacts f b := by
  obtain ⟨hok, hf⟩ := (wfFile_spec hwf).2.1 b hb
  refine blkOK_spec hok ?_
  have hle : b.lo ≤ b.hi := by
    simp only [blkOK, Bool.and_eq_true, decide_eq_true_eq] at hok; exact hok.1
  rcases hm with h | h
  · exact Nat.lt_of_le_of_ne hle h
  · simpa [forcedOK, h] using hf

theorem wf_force {f : File} (hwf : wfFile f = true) {ch : Nat → Bool} {l : Nat} (h : Ev.force l ∈ fileEvents ch f) :
    ∃ b ∈ fileBlks f, l = b.lo + 1 ∧ b.header ≠ [] ∧ BlkFacts f b := by
  obtain ⟨d, hd, hdev⟩ := List.mem_flatMap.mp h
  obtain ⟨b, hb, hlb, hh⟩ := decl_force d ((wfFile_spec hwf).1 d hd) l hdev
  have hbf : b ∈ fileBlks f := List.mem_flatMap.mpr ⟨d, hd, hb⟩
  exact ⟨b, hbf, hlb, hh, wf_multi hwf hbf (.inr hh)⟩

theorem wf_check {f : File} (hwf : wfFile f = true) {ch : Nat → Bool} {l : Nat} (h : Ev.check l ∈ fileEvents ch f) :
    (∃ b ∈ fileBlks f, l ∈ b.lines ∧ BlkFacts f b) ∨ ∃ d ∈ f.decls, OneLinerCheck d l := by
  obtain ⟨d, hd, hdev⟩ := List.mem_flatMap.mp h
  rcases decl_check d ((wfFile_spec hwf).1 d hd) l hdev with ⟨b, hb, hlb, hm⟩ | h1
  · have hbf : b ∈ fileBlks f := List.mem_flatMap.mpr ⟨d, hd, hb⟩
    exact .inl ⟨b, hbf, hlb, wf_multi hwf hbf hm⟩
  · exact .inr ⟨d, hd, h1⟩

theorem oneLiner_outside {f : File} (hwf : wfFile f = true) {env : Env} (hc : env.comments = commentArray f.lineCodes)
    (hfs : functionScopes f = some env.funcs) {d : Decl} (hd : d ∈ f.decls) {l : Nat} (h : OneLinerCheck d l)
    {fuel r : Nat} (hs : skipComments env (fuel + 1) l = .ok r) : searchScopes env.funcs r = 0 := by
  obtain ⟨lb, rb, first, stmts, rfl, hlr, hin⟩ := h
  have hone := (wfFile_spec hwf).2.2
  simp only [oneLinersOK, hfs] at hone
  have := (List.all_eq_true.mp hone) _ hd
  simp only [hlr, bne_self_eq_false, Bool.false_or, Bool.and_eq_true, beq_iff_eq, Bool.not_eq_true',
    decide_eq_true_eq, List.all_eq_true] at this
  obtain ⟨⟨⟨⟨hout, hnc⟩, h1⟩, hsz⟩, hall⟩ := this
  have hl' : l = rb := by simpa [Ev.checkLineIs] using hall _ hin
  have hcmt : env.isComment rb = .ok false := hnc ▸ isComment_of_codes hc rb h1 hsz
  rw [hl', skipComments_id env _ rb hcmt] at hs
  cases hs
  exact hout

end GoatSpec
