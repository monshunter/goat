import GoatSpec.Sched
import GoatSpec.Proofs.Sort
/-! What C08 is proved from: results written by index (`foldl_complete_get`), the equations of the swap-to-end
    compaction (`filterValid_*`: the witness `C08.filterValid_reorders` reads them; its permutation theorem is by
    functional induction in C08), the sort by path, whole-file writes (`applyWrites_*`) and interleavings
    (`Interleave.perm`). -/
namespace GoatSpec.Sched

theorem complete_length {α β : Type} (f : α → β) (tasks : List α) (res : List (Option β)) (i : Nat) :
    (complete f tasks res i).length = res.length := by
  unfold complete
  split <;> simp

theorem foldl_complete_length {α β : Type} (f : α → β) (tasks : List α) (order : List Nat)
    (res : List (Option β)) : (order.foldl (complete f tasks) res).length = res.length := by
  induction order generalizing res <;> simp [*, complete_length]

theorem complete_get {α β : Type} (f : α → β) (tasks : List α) (res : List (Option β)) (i j : Nat)
    (hj : j < tasks.length) (hl : res.length = tasks.length) :
    (complete f tasks res i)[j]? = if j = i then some (tasks[j]?.map f) else res[j]? := by
  unfold complete
  by_cases hji : j = i
  · subst hji
    rw [if_pos rfl, List.getElem?_eq_getElem hj, List.getElem?_set_self (hl ▸ hj)]
    rfl
  · rw [if_neg hji]
    split
    · exact List.getElem?_set_ne (Ne.symm hji)
    · rfl

theorem foldl_complete_get {α β : Type} (f : α → β) (tasks : List α) (order : List Nat)
    (res : List (Option β)) (j : Nat) (hj : j < tasks.length) (hl : res.length = tasks.length) :
    (order.foldl (complete f tasks) res)[j]? = if j ∈ order then some (tasks[j]?.map f) else res[j]? := by
  induction order generalizing res with
  | nil => rfl
  | cons i r ih =>
    rw [List.foldl_cons, ih _ (by rw [complete_length, hl]), complete_get f tasks res i j hj hl]
    simp only [List.mem_cons]
    by_cases hji : j = i
    · simp only [hji, true_or, ite_self, if_true]
    · simp only [hji, false_or, if_false]

theorem filterValid_nil {α : Type} : filterValid ([] : List (Option α)) = [] := by
  rw [filterValid]

theorem filterValid_some {α : Type} (x : α) (r : List (Option α)) :
    filterValid (some x :: r) = x :: filterValid r := by
  rw [filterValid]

theorem filterValid_singleton_none {α : Type} : filterValid ([none] : List (Option α)) = [] := by
  rw [filterValid]
  rfl

/-- a leading `nil` is overwritten by the last element -/
theorem filterValid_none_concat {α : Type} (r : List (Option α)) (last : Option α) :
    filterValid (none :: (r ++ [last])) = filterValid (last :: r) := by
  rw [filterValid]
  split
  · next h => simp at h
  · next l h =>
    obtain rfl : last = l := by simpa using h
    simp

theorem sortByPath_perm {β : Type} (l : List (String × β)) : (sortByPath l).Perm l :=
  Insertion.sort_perm insertByPath (fun _ => rfl) (fun _ _ _ => rfl) l

theorem sortByPath_sorted {β : Type} (l : List (String × β)) : SortedByPath (sortByPath l) :=
  Insertion.sort_pairwise insertByPath (fun _ => rfl) (fun _ _ _ => rfl) (fun _ _ => String.le_total _ _)
    String.le_trans l

theorem applyWrites_cons (t : Tree) (w : String × String) (ws : List (String × String)) :
    applyWrites t (w :: ws) = applyWrites (write t w) ws := rfl

theorem applyWrites_not_mem (p : String) (ws : List (String × String)) (t : Tree)
    (h : p ∉ ws.map (·.1)) : applyWrites t ws p = t p := by
  induction ws generalizing t with
  | nil => rfl
  | cons w r ih =>
    rw [List.map_cons, List.mem_cons, not_or] at h
    rw [applyWrites_cons, ih _ h.2]
    exact if_neg h.1

theorem applyWrites_mem (p c : String) (ws : List (String × String)) (t : Tree)
    (nd : (ws.map (·.1)).Nodup) (h : (p, c) ∈ ws) : applyWrites t ws p = some c := by
  induction ws generalizing t with
  | nil => simp at h
  | cons w r ih =>
    rw [List.map_cons, List.nodup_cons] at nd
    rw [applyWrites_cons]
    rcases List.mem_cons.mp h with rfl | h
    · rw [applyWrites_not_mem p r _ nd.1]
      exact if_pos rfl
    · exact ih _ nd.2 h

theorem Interleave.perm {α : Type} {ls : List (List α)} {s : List α} (h : Interleave ls s) : s.Perm ls.flatten := by
  induction h with
  | done hn => rw [List.flatten_eq_nil_iff.mpr hn]
  | step i rest hi _ ih => exact ((flatten_take_perm hi).trans (ih.symm.cons _)).symm

theorem orRun_eq (steps : List Bool) (init : Bool) : orRun init steps = (init || steps.any id) := by
  induction steps generalizing init with
  | nil => simp [orRun]
  | cons u r ih => simpa [orRun, Bool.or_assoc] using ih (init || u)

end GoatSpec.Sched
