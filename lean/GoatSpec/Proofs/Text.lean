import GoatSpec.TextSpec
/-! The text passes at the level of lines, for every text (no well-formedness). -/
namespace GoatSpec

/-! Facts about the extracted marker texts, re-checked whenever Extracted.lean changes. -/

/-- `startsMk` trims before it compares: it is the regexp's `^\s*MARK` only for marker texts that
    begin with a non-space character -/
theorem marker_nonempty_nonws : ∀ k ∈ allMk, k.text.head?.map isWs = some false := by
  decide

/-- hence a line starts with at most one marker (`startsMk_unique`) -/
theorem markers_not_prefix : ∀ k ∈ allMk, ∀ k' ∈ allMk, k ≠ k' → (k.text).isPrefixOf (k'.text) = false := by
  decide

theorem mem_allMk (k : Mk) : k ∈ allMk := by cases k <;> decide

theorem ltrim_blank {l : Line} (h : isBlank l = true) : ltrim l = [] := by
  simpa [ltrim] using List.dropWhile_append_of_pos (l₂ := []) (List.all_eq_true.mp h)

theorem startsMk_not_blank {k : Mk} {l : Line} (h : startsMk k l = true) : isBlank l = false := by
  refine Bool.eq_false_iff.mpr fun hb => ?_
  have hm := marker_nonempty_nonws k (mem_allMk k)
  rw [startsMk, ltrim_blank hb] at h
  cases hk : k.text with
  | nil => rw [hk] at hm; cases hm
  | cons c t => rw [hk] at h; cases h

theorem startsMk_unique {k k' : Mk} {l : Line} (h : startsMk k l = true) (h' : startsMk k' l = true) : k = k' := by
  refine Decidable.by_contra fun hk => ?_
  have np := fun a b => markers_not_prefix a (mem_allMk a) b (mem_allMk b)
  rcases List.prefix_or_prefix_of_prefix (List.isPrefixOf_iff_prefix.mp h) (List.isPrefixOf_iff_prefix.mp h') with hp | hp
  · exact Bool.eq_false_iff.mp (np k k' hk) (List.isPrefixOf_iff_prefix.mpr hp)
  · exact Bool.eq_false_iff.mp (np k' k (Ne.symm hk)) (List.isPrefixOf_iff_prefix.mpr hp)

theorem startsMk_other {k k' : Mk} {l : Line} (h : startsMk k' l = true) (hne : k ≠ k') : startsMk k l = false :=
  Bool.eq_false_iff.mpr fun hk => hne (startsMk_unique hk h)

theorem plain_not_starts {l : Line} (h : plain l = true) (k : Mk) : startsMk k l = false := by
  simpa using List.all_eq_true.mp h k (mem_allMk k)

theorem blank_not_starts {l : Line} (h : isBlank l = true) (k : Mk) : startsMk k l = false :=
  Bool.eq_false_iff.mpr fun hs => Bool.false_ne_true ((startsMk_not_blank hs).symm.trans h)

theorem plain_of_blank {l : Line} (h : isBlank l = true) : plain l = true :=
  List.all_eq_true.mpr fun k _ => by rw [blank_not_starts h k]; rfl

theorem plain_of_blanks {bs : List Line} (h : bs.all isBlank = true) : bs.all plain = true :=
  List.all_eq_true.mpr fun x hx => plain_of_blank (List.all_eq_true.mp h x hx)

/-! `matchAt` skips blank lines and looks at the first other line. After these four equations
    nothing unfolds `matchAt`, `matchLine` or `matchBlock` again. -/

theorem matchAt_nil (k : Mk) : matchAt k [] = none := by cases k <;> rfl

theorem matchAt_blank {k : Mk} {x : Line} (h : isBlank x = true) (r : List Line) :
    matchAt k (x :: r) = matchAt k r := by
  cases k <;> simp [matchAt, matchLine, matchBlock, h]

theorem matchAt_start {k : Mk} {x : Line} (h : startsMk k x = true) (r : List Line) :
    matchAt k (x :: r) = if k = .insert then some r else afterEnd r := by
  cases k <;> simp [matchAt, matchLine, matchBlock, h, startsMk_not_blank h]

theorem matchAt_other {k : Mk} {x : Line} (hb : isBlank x = false) (h : startsMk k x = false) (r : List Line) :
    matchAt k (x :: r) = none := by
  cases k <;> simp [matchAt, matchLine, matchBlock, h, hb]

theorem matchAt_blanks {k : Mk} {bs : List Line} (hbs : bs.all isBlank = true) (l : List Line) :
    matchAt k (bs ++ l) = matchAt k l := by
  induction bs with
  | nil => rfl
  | cons b t ih =>
    rw [List.all_cons, Bool.and_eq_true] at hbs
    rw [List.cons_append, matchAt_blank hbs.1, ih hbs.2]

theorem matchAt_none {k : Mk} {xs : List Line} {y : Line} (rest : List Line)
    (hxs : ∀ x ∈ xs, startsMk k x = false) (hy : isBlank y = false) (hk : startsMk k y = false) :
    matchAt k (xs ++ y :: rest) = none := by
  induction xs with
  | nil => exact matchAt_other hy hk rest
  | cons x t ih =>
    have ht := ih fun z hz => hxs z (List.mem_cons_of_mem _ hz)
    cases hb : isBlank x with
    | true => rwa [List.cons_append, matchAt_blank hb]
    | false => exact matchAt_other hb (hxs x List.mem_cons_self) _

theorem afterEnd_plain_body {body : List Line} {e : Line} (rest : List Line)
    (hb : body.all plain = true) (he : startsMk .endm e = true) :
    afterEnd (body ++ e :: rest) = some rest := by
  induction body with
  | nil => simp [afterEnd, he]
  | cons b t ih =>
    rw [List.all_cons, Bool.and_eq_true] at hb
    simp [afterEnd, plain_not_starts hb.1 .endm, ih hb.2]

theorem pass_nil (k : Mk) (repl : List Line) : pass k repl [] = (0, []) := by
  rw [pass]

theorem pass_cons_none {k : Mk} {x : Line} {r : List Line} (repl : List Line)
    (h : matchAt k (x :: r) = none) :
    pass k repl (x :: r) = ((pass k repl r).1, x :: (pass k repl r).2) := by
  rw [pass]; split
  · next hm => rw [h] at hm; cases hm
  · rfl

theorem pass_some {k : Mk} {l rest : List Line} (repl : List Line) (h : matchAt k l = some rest) :
    pass k repl l = ((pass k repl rest).1 + 1, repl ++ (pass k repl rest).2) := by
  cases l with
  | nil => rw [matchAt_nil] at h; cases h
  | cons x r =>
    rw [pass]; split
    · next hm => rw [h] at hm; cases hm; rfl
    · next hm => rw [h] at hm; cases hm

/-- the copied stretch ends at a non-blank line: blank lines after it may belong to the next match -/
theorem pass_copy {k : Mk} (repl : List Line) {xs : List Line} {y : Line} (rest : List Line)
    (hxs : ∀ x ∈ xs, startsMk k x = false) (hy : isBlank y = false) (hk : startsMk k y = false) :
    pass k repl (xs ++ y :: rest) = ((pass k repl rest).1, xs ++ y :: (pass k repl rest).2) := by
  induction xs with
  | nil => exact pass_cons_none repl (matchAt_other hy hk rest)
  | cons x t ih =>
    have hm : matchAt k (x :: (t ++ y :: rest)) = none := matchAt_none (xs := x :: t) rest hxs hy hk
    rw [List.cons_append, pass_cons_none repl hm, ih fun z hz => hxs z (List.mem_cons_of_mem _ hz)]
    rfl

end GoatSpec
