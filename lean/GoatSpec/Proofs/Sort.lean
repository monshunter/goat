/-! The model's insertion sorts are each `l.foldr ins []` for its own `ins`. They are handled as *any* function
that satisfies the two equations of insertion before the first `y` with `c x y`; every instance supplies the
equations by `rfl`. The relation `c` and its `DecidableRel` instance are implicit on purpose: at a call site they
are found by unification from the `rfl` given for `cons`, so they are the very terms inside the model's `if`. A
lemma taking `c` explicitly makes Lean synthesize an instance of its own, and the `rfl` then has to unfold the
decision procedure. After them, in `GoatSpec`, the list lemmas that more than one module needs. -/
namespace GoatSpec.Insertion

variable {α : Type} {c : α → α → Prop} [DecidableRel c] (ins : α → List α → List α)
  (nil : ∀ x, ins x [] = [x])
  (cons : ∀ x y ys, ins x (y :: ys) = if c x y then x :: y :: ys else y :: ins x ys)
include nil cons

theorem ins_perm (x : α) : ∀ l, (ins x l).Perm (x :: l)
  | [] => by rw [nil]
  | y :: ys => by
    rw [cons]
    split
    · exact .refl _
    · exact ((ins_perm x ys).cons y).trans (.swap x y ys)

theorem sort_perm : ∀ l : List α, (l.foldr ins []).Perm l
  | [] => .refl _
  | x :: l => (ins_perm ins nil cons x _).trans ((sort_perm l).cons x)

theorem ins_of_le (x : α) : ∀ l : List α, (∀ y ∈ l, c x y) → ins x l = x :: l
  | [], _ => nil x
  | y :: ys, h => by rw [cons, if_pos (h y (.head _))]

theorem sort_of_pairwise : ∀ l : List α, l.Pairwise c → l.foldr ins [] = l
  | [], _ => rfl
  | x :: l, h => by
    rw [List.foldr_cons, sort_of_pairwise l h.of_cons]
    exact ins_of_le ins nil cons x l fun _ => List.rel_of_pairwise_cons h

variable (total : ∀ a b, c a b ∨ c b a) (trans : ∀ {a b d}, c a b → c b d → c a d)
include total trans

theorem ins_pairwise (x : α) : ∀ l : List α, l.Pairwise c → (ins x l).Pairwise c
  | [], _ => by rw [nil]; exact List.pairwise_singleton _ _
  | y :: ys, h => by
    rw [cons]
    split
    · next hxy =>
      exact .cons (List.forall_mem_cons.mpr ⟨hxy, fun _ hz => trans hxy (List.rel_of_pairwise_cons h hz)⟩) h
    · next hxy =>
      have hy : ∀ z ∈ x :: ys, c y z :=
        List.forall_mem_cons.mpr ⟨(total _ _).resolve_left hxy, fun _ => List.rel_of_pairwise_cons h⟩
      exact .cons (fun z hz => hy z ((ins_perm ins nil cons x ys).mem_iff.mp hz)) (ins_pairwise x ys h.of_cons)

theorem sort_pairwise : ∀ l : List α, (l.foldr ins []).Pairwise c
  | [] => .nil
  | x :: l => ins_pairwise ins nil cons total trans x _ (sort_pairwise l)

end GoatSpec.Insertion

namespace GoatSpec

theorem eq_of_key_eq {α κ : Type} (key : α → κ) (l : List α) (hn : (l.map key).Nodup) :
    ∀ a ∈ l, ∀ b ∈ l, key a = key b → a = b :=
  have h := List.pairwise_map.mp hn
  fun _ ha _ hb => List.Pairwise.forall_of_forall_of_flip (R := fun a b => key a = key b → a = b) (fun _ _ _ => rfl)
    (h.imp fun hne e => absurd e hne) (h.imp fun hne e => absurd e.symm hne) ha hb

theorem eq_of_perm_of_sorted {β : Type} {l s s' : List (String × β)} (nd : (l.map (·.1)).Nodup)
    (hp : s.Perm l) (hq : s'.Perm l) (hs : s.Pairwise (fun a b => a.1 ≤ b.1)) (hs' : s'.Pairwise (fun a b => a.1 ≤ b.1)) :
    s = s' :=
  (hp.trans hq.symm).eq_of_pairwise (fun a b ha hb hab hba =>
    eq_of_key_eq (·.1) l nd a (hp.subset ha) b (hq.subset hb) (String.le_antisymm hab hba)) hs hs'

/-- one step of an interleaving (`Runtime.Interleave.step`, `Sched.Interleave.step`): the head of the `i`-th list is
    taken off and put in front -/
theorem flatten_take_perm {α : Type} : ∀ {ls : List (List α)} {i : Nat} {x : α} {rest : List α},
    ls[i]? = some (x :: rest) → ls.flatten.Perm (x :: (ls.set i rest).flatten)
  | l :: t, 0, x, rest, h => by
    obtain rfl : l = x :: rest := Option.some.inj h
    exact .refl _
  | l :: t, i + 1, x, rest, h =>
    (List.Perm.append_left l (flatten_take_perm (ls := t) h)).trans List.perm_middle

end GoatSpec
