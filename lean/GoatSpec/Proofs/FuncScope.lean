import GoatSpec.Proofs.Mark
import GoatSpec.Coherence
/-! func ≤ scope is not an inclusion of positions (a func position is the start of the function, a scope position the
    first changed statement of a block) but a count: every func position is related to the insert position of an active
    line whose key lies in that function, and under `cohOK` the insert position determines the function
    (`length_le_of_rel`). Keys are not counted: distinct keys of one function may share an insert position (the
    `case x:` example at `freshPair`). -/
namespace GoatSpec

theorem freshPair_of_selfKey {env : Env} {l1 l2 : Nat} (h1 : selfKey env l1 = true) (h2 : selfKey env l2 = true) :
    freshPair env l1 l2 = true := by
  unfold freshPair
  unfold selfKey at h1 h2
  split
  · next r1 r2 e1 e2 =>
    rw [e1] at h1; rw [e2] at h2
    simp only [beq_iff_eq] at h1 h2
    by_cases h : r1 = r2
    · subst h; simp [lineFunc, ← h1, ← h2]
    · simp [h]
  · rfl

theorem cohOK_spec {env : Env} {evs : List Ev} (h : cohOK env evs = true) :
    (∀ l ∈ activeLines env evs, cohLine env l = true) ∧
    (∀ l1 ∈ activeLines env evs, ∀ l2 ∈ activeLines env evs, freshPair env l1 l2 = true) := by
  simp only [cohOK, Bool.and_eq_true, Bool.or_eq_true, List.all_eq_true] at h
  refine ⟨h.1, ?_⟩
  intro l1 h1 l2 h2
  rcases h.2 with hs | hp
  · exact freshPair_of_selfKey (hs l1 h1) (hs l2 h2)
  · exact hp l1 h1 l2 h2

theorem cohLine_spec {env : Env} {l : Nat} (h : cohLine env l = true) :
    (searchTrees env.trees l = none → searchScopes env.funcs l = 0) ∧
    ∀ t, searchTrees env.trees l = some t → keyFunc env (t.search l) = searchScopes env.funcs l ∧
      ∀ r, skipOf env l = .ok r → searchScopes env.funcs r ≠ 0 := by
  unfold cohLine keyOf at h
  cases ht : searchTrees env.trees l with
  | none => exact ⟨fun _ => by simpa [ht] using h, nofun⟩
  | some t =>
    simp only [ht, Option.map_some, Bool.and_eq_true, beq_iff_eq] at h
    refine ⟨nofun, fun t' e => ?_⟩
    cases e
    exact ⟨h.1, fun r hr => by simpa [hr] using h.2⟩

/-- the position a function index receives at func granularity -/
def funcPos (env : Env) (i : Nat) : Option Nat :=
  match env.funcs[i]? with
  | some (s, _) => (skipOf env (s + 1)).toOption
  | none => none

/-- the func run `sF` against the scope run `sS` over the same events; `A` is the set of active lines of the whole
    event list -/
structure FSRel (env : Env) (A : List Nat) (sF sS : MState) : Prop where
  funcs : ∀ p ∈ sF.multi, ∃ k ∈ sS.visitedScopes, funcPos env (keyFunc env k) = some p
  keys : ∀ k ∈ sS.visitedScopes, ∃ l ∈ A, keyOf env l = some k ∧ ∃ q ∈ sS.multi, skipOf env l = .ok q
  singles : sF.singles = sS.singles

theorem target_func {env eF : Env} (he : env.Same eF) (hg : eF.gran = .func) {l x : Nat} (ht : C09.Target eF l x) :
    searchScopes env.funcs l ≠ 0 ∧ funcPos env (searchScopes env.funcs l) = some x := by
  rcases ht with ⟨h, _⟩ | ⟨_, s, e, hs, h0, hsk⟩
  · exact absurd hg h
  · rw [he.funcs] at hs h0
    rw [he.skip] at hsk
    exact ⟨h0, by simp only [funcPos, hs, skipOf, hsk, Except.toOption]⟩

/-- Coherence is used twice: the insert position of a line that opens a key lies inside a function (so the scope run
    records it), and the function of a line is the function of its key. -/
theorem force_func_scope {env eF eS : Env} (heF : env.Same eF) (heS : env.Same eS) (htr : eS.trees = env.trees)
    (hgF : eF.gran = .func) (hgS : eS.gran = .scope) {A : List Nat} {sF sF' sS sS' : MState} {l : Nat}
    (hl : l ∈ A) (hcoh : cohLine env l = true) (hJ : FSRel env A sF sS)
    (hF : forceMark eF sF l = .ok sF') (hS : forceMark eS sS l = .ok sS') : FSRel env A sF' sS' := by
  obtain ⟨hmono, hkin, hnew⟩ := forceMark_scope_spec hgS hS
  rw [htr] at hkin hnew
  obtain ⟨hnone, hsome⟩ := cohLine_spec hcoh
  have hkeys : ∀ k ∈ sS'.visitedScopes, ∃ l0 ∈ A, keyOf env l0 = some k ∧ ∃ q ∈ sS'.multi, skipOf env l0 = .ok q := by
    intro k hk
    rcases hnew k hk with h1 | ⟨t, r, ht, rfl, hr, hin⟩
    · obtain ⟨l0, hl0, hk0, q, hq0, hs0⟩ := hJ.keys k h1
      exact ⟨l0, hl0, hk0, q, (forceMark_spec hS).mono hq0, hs0⟩
    · replace hr : skipOf env l = .ok r := by rwa [heS.skip] at hr
      have hrf := (hsome t ht).2 r hr
      exact ⟨l, hl, by simp [keyOf, ht], r, hin (heS.funcs ▸ hrf), hr⟩
  have sp := forceMark_spec hF
  refine ⟨fun p hp => ?_, hkeys, by rw [sp.singles, (forceMark_spec hS).singles, hJ.singles]⟩
  rcases sp.new p hp with h1 | ⟨ht, _⟩
  · obtain ⟨k, hk1, hk2⟩ := hJ.funcs p h1
    exact ⟨k, hmono hk1, hk2⟩
  · obtain ⟨h0, hfp⟩ := target_func heF hgF ht
    cases hst : searchTrees env.trees l with
    | none => exact absurd (hnone hst) h0
    | some t => exact ⟨t.search l, hkin t hst, by rw [(hsome t hst).1]; exact hfp⟩

theorem activeLines_of_fires {env : Env} {evs : List Ev} {ev : Ev} {l : Nat} (hev : ev ∈ evs) (hf : Fires env ev l) :
    l ∈ activeLines env evs := by
  induction evs with
  | nil => cases hev
  | cons e r ih =>
    rcases List.mem_cons.mp hev with rfl | h1
    · rcases hf with ⟨rfl, hc⟩ | rfl
      · simp [activeLines, isChanged_true.mp hc]
      · simp [activeLines]
    · have := ih h1
      cases e with
      | check _ => simp only [activeLines]; split <;> simp [this]
      | force _ => exact List.mem_cons_of_mem _ this
      | single _ _ => exact this

theorem length_le_of_rel {α β : Type} [DecidableEq α] (R : β → α → Prop) :
    ∀ (ps : List β) (qs : List α), ps.Nodup → (∀ p ∈ ps, ∃ q ∈ qs, R p q) →
      (∀ p1 p2 q, R p1 q → R p2 q → p1 = p2) → ps.length ≤ qs.length := by
  intro ps
  induction ps with
  | nil => intro qs _ _ _; exact Nat.zero_le _
  | cons p ps ih =>
    intro qs hn htot hinj
    obtain ⟨hp, hn⟩ := List.nodup_cons.mp hn
    obtain ⟨q, hq, hR⟩ := htot p List.mem_cons_self
    -- the partners of the other members are not `q`: induction with `q` erased
    have h1 := ih (qs.erase q) hn (fun p' hp' => ?_) hinj
    · rw [List.length_erase_of_mem hq] at h1
      have := List.length_pos_of_mem hq
      simp only [List.length_cons]; omega
    · obtain ⟨q', hq', hR'⟩ := htot p' (List.mem_cons_of_mem _ hp')
      have hne : q' ≠ q := by
        rintro rfl
        exact hp (hinj p p' q' hR hR' ▸ hp')
      exact ⟨q', (List.mem_erase_of_ne hne).mpr hq', hR'⟩

/-- `cohOK` is stated on an environment of any granularity, hence the third environment `env` beside `eF` and `eS`:
    the same file (`Env.Same`), and the trees of `eS`. -/
theorem func_le {env eF eS : Env} (heF : env.Same eF) (heS : env.Same eS) (htr : eS.trees = env.trees)
    (hgF : eF.gran = .func) (hgS : eS.gran = .scope) {evs : List Ev} {sF sS : MState}
    (hF : runEvents eF evs = .ok sF) (hS : runEvents eS evs = .ok sS) (hc : cohOK env evs = true) :
    sF.multi.length ≤ sS.multi.length ∧ sF.singles = sS.singles ∧ sF.count ≤ sS.count := by
  obtain ⟨hcoh, hfresh⟩ := cohOK_spec hc
  have h : FSRel env (activeLines env evs) sF sS := by
    refine run_rel (heS.changed.trans heF.changed.symm) (FSRel env _) ?_
      (fun p _ _ hJ => ⟨hJ.funcs, hJ.keys, congrArg (· ++ [p]) hJ.singles⟩)
      (⟨List.forall_mem_nil _, List.forall_mem_nil _, rfl⟩ : FSRel env _ {} {}) hF hS
    intro l hl _ _ _ _ hJ hF hS
    obtain ⟨ev, hev, hf⟩ := active_iff.mp hl
    -- `eF` and `env` have the same changed lines
    rw [Fires, isChanged_congr heF.changed] at hf
    have hact : l ∈ activeLines env evs := activeLines_of_fires hev hf
    exact force_func_scope heF heS htr hgF hgS hact (hcoh l hact) hJ hF hS
  let R : Nat → Nat → Prop := fun p q => ∃ l ∈ activeLines env evs, ∃ k, keyOf env l = some k ∧
    skipOf env l = .ok q ∧ funcPos env (keyFunc env k) = some p
  have h1 : sF.multi.length ≤ sS.multi.length := by
    apply length_le_of_rel R sF.multi sS.multi (runEvents_inv hF).nodup
    · intro p hp
      obtain ⟨k, hk, hfp⟩ := h.funcs p hp
      obtain ⟨l, hl, hkl, q, hq, hs⟩ := h.keys k hk
      exact ⟨q, hq, l, hl, k, hkl, hs, hfp⟩
    · intro p1 p2 q ⟨l1, hl1, k1, hk1, hs1, hf1⟩ ⟨l2, hl2, k2, hk2, hs2, hf2⟩
      -- `l1` and `l2` have the same insert position `q`, so their keys lie in one function
      have hk : keyFunc env k1 = keyFunc env k2 := by
        have := hfresh l1 hl1 l2 hl2
        unfold freshPair at this
        rw [hs1, hs2] at this
        simpa only [bne_self_eq_false, Bool.false_or, beq_iff_eq, lineFunc, hk1, hk2, Option.map_some,
          Option.some.injEq] using this
      rw [hk] at hf1
      exact Option.some.inj (hf1.symm.trans hf2)
  exact ⟨h1, h.singles, (runEvents_inv hF).count_le (runEvents_inv hS) h1 h.singles⟩

end GoatSpec
