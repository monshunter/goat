import GoatSpec.Cmd
import GoatSpec.Proofs.Idem
/-! The item level. One `pass` of kind `k` keeps `Arr` (text and arrangement agree up to blank lines)
    and acts on the arrangement as `replaceK k`; `goat clean` and `goat patch` are chains of such passes,
    and what they must produce (`userItems`, `patchExpected`) are chains of `replaceK`, so everything
    about them is a fact about `replaceK`. -/
namespace GoatSpec

@[simp] theorem flatten_nil : flatten [] = [] := rfl

@[simp] theorem flatten_cons (it : Item) (r : List Item) : flatten (it :: r) = it.lines ++ flatten r := by
  simp [flatten]

@[simp] theorem flatten_append (a b : List Item) : flatten (a ++ b) = flatten a ++ flatten b := by
  simp [flatten]

theorem nonBlank_append (a b : List Line) : nonBlank (a ++ b) = nonBlank a ++ nonBlank b :=
  List.filter_append ..

theorem any_or {α : Type} (p q : α → Bool) (l : List α) :
    l.any (fun x => p x || q x) = (l.any p || l.any q) := by
  induction l with
  | nil => rfl
  | cons x xs ih => simp only [List.any_cons, ih]; cases p x <;> cases q x <;> simp

theorem any_congr_mem {α : Type} {p q : α → Bool} {l : List α} (h : ∀ a ∈ l, p a = q a) : l.any p = l.any q := by
  induction l with
  | nil => rfl
  | cons x xs ih => rw [List.any_cons, List.any_cons, h x List.mem_cons_self, ih fun a ha => h a (List.mem_cons_of_mem _ ha)]

theorem kind_of_mem_userItems (X : List Item) : ∀ it ∈ userItems X, it.kind = none :=
  fun _ h => Option.isNone_iff_eq_none.mp (List.mem_filter.mp h).2

/-- `endm` is missing on the right: `wf` admits no block of that kind (`blockKind`) -/
theorem kind_isSome_of_wf {it : Item} (h : it.wf = true) :
    it.kind.isSome = (isK .delete it || isK .insert it || isK .generate it || isK .main it || isK .user it) := by
  cases it with
  | user x | ins x => rfl
  | block k s b e => cases k <;> first | rfl | simp [Item.wf, blockKind] at h

theorem cntK_cons (k : Mk) (it : Item) (r : List Item) :
    cntK k (it :: r) = cntK k r + if isK k it then 1 else 0 := by
  simp only [cntK, List.filter_cons]; split <;> rfl

/-- a `simp` lemma for `simp [-List.any_eq_true]` only: with `List.any_eq_true` the right side becomes an `∃` -/
theorem cntK_pos (k : Mk) (X : List Item) : cntK k X > 0 ↔ X.any (isK k) = true := by
  simp [cntK, List.length_filter_pos_iff]

@[simp] theorem replaceK_nil (k : Mk) (R : List Item) : replaceK k R [] = [] := rfl

@[simp] theorem replaceK_cons (k : Mk) (R : List Item) (it : Item) (r : List Item) :
    replaceK k R (it :: r) = (if isK k it then R else [it]) ++ replaceK k R r := by
  simp [replaceK]

theorem replaceK_nil_eq_filter (k : Mk) (X : List Item) : replaceK k [] X = X.filter (fun it => !isK k it) := by
  induction X with
  | nil => rfl
  | cons it r ih => rw [replaceK_cons, ih]; cases h : isK k it <;> simp [h]

theorem any_isK_replaceK_self (k : Mk) (R X : List Item) :
    (replaceK k R X).any (isK k) = (R.any (isK k) && X.any (isK k)) := by
  induction X with
  | nil => simp
  | cons it r ih =>
    rw [replaceK_cons, List.any_append, ih, List.any_cons]
    cases h : isK k it with
    | false => simp [-List.any_eq_true, h]
    | true =>
      rw [if_pos rfl]
      generalize R.any (isK k) = a
      cases a <;> simp

theorem any_isK_replaceK_ne {k k' : Mk} (hne : k ≠ k') (R X : List Item) :
    (replaceK k' R X).any (isK k) = (X.any (isK k) || R.any (isK k) && X.any (isK k')) := by
  induction X with
  | nil => simp
  | cons it r ih =>
    rw [replaceK_cons, List.any_append, ih, List.any_cons, List.any_cons]
    cases h' : isK k' it with
    | false => simp [-List.any_eq_true, Bool.or_assoc]
    | true =>
      have : isK k it = false := by
        rw [isK, beq_iff_eq] at h'
        rw [isK, h', beq_eq_false_iff_ne]
        exact fun h => hne (Option.some.inj h).symm
      rw [this, if_pos rfl]
      generalize R.any (isK k) = a
      cases a <;> simp

theorem forall_replaceK {P : Item → Prop} (k : Mk) {R X : List Item} (hR : ∀ it ∈ R, P it) (hX : ∀ it ∈ X, P it) :
    ∀ it ∈ replaceK k R X, P it := by
  intro it h
  obtain ⟨a, ha, h⟩ := List.mem_flatMap.mp h
  split at h
  · exact hR it h
  · exact List.mem_singleton.mp h ▸ hX a ha

theorem userItems_append (a b : List Item) : userItems (a ++ b) = userItems a ++ userItems b :=
  List.filter_append ..

theorem userItems_eq_self {items : List Item} (h : ∀ it ∈ items, it.kind = none) : userItems items = items := by
  simp only [userItems, List.filter_eq_self]
  intro a ha; simp [h a ha]

theorem userItems_idem (items : List Item) : userItems (userItems items) = userItems items :=
  userItems_eq_self (kind_of_mem_userItems items)

theorem userItems_replaceK (k : Mk) {R : List Item} (hR : userItems R = []) (X : List Item) :
    userItems (replaceK k R X) = userItems X := by
  induction X with
  | nil => rfl
  | cons it r ih =>
    rw [replaceK_cons, userItems_append, ih, show it :: r = [it] ++ r from rfl, userItems_append]
    congr 1
    split
    · next h =>
      have hk : it.kind = some k := by simpa [isK] using h
      rw [hR]; simp [userItems, hk]
    · rfl

theorem userItems_eq_replaceK {X : List Item} (hwf : ∀ it ∈ X, it.wf = true) :
    replaceK .user [] (replaceK .main [] (replaceK .generate [] (replaceK .insert [] (replaceK .delete [] X))))
      = userItems X := by
  simp only [replaceK_nil_eq_filter, List.filter_filter, userItems]
  refine List.filter_congr fun it hit => ?_
  rw [← Bool.not_not (b := it.kind.isNone), Option.not_isNone, kind_isSome_of_wf (hwf it hit)]
  simp [Bool.and_comm, Bool.and_left_comm]

/-- one evaluation of the extracted block; it also rules out the `| _ => .user []` fallback of
    `genBlockItem` -/
theorem genBlock_facts : genBlockItem.wf = true ∧ genBlockItem.kind = some .generate
    ∧ flatten [genBlockItem] = insertBlock := by decide

theorem genBlock_wf : genBlockItem.wf = true := genBlock_facts.1
theorem genBlock_kind : genBlockItem.kind = some .generate := genBlock_facts.2.1
theorem genBlock_flatten : flatten [genBlockItem] = insertBlock := genBlock_facts.2.2

theorem isK_genBlock (k : Mk) : isK k genBlockItem = decide (k = .generate) := by
  cases k <;> simp [isK, genBlock_kind]

theorem patchExpected_eq_replaceK (isMain : Bool) (X : List Item) :
    patchExpected isMain X = (if isMain then replaceK .main [] else id)
      (replaceK .generate [genBlockItem] (replaceK .insert [genBlockItem] (replaceK .delete [] X))) := by
  -- both sides are `X.flatMap f`; compare the two `f` item by item
  cases isMain
  all_goals
    simp only [replaceK, patchExpected, List.flatMap_assoc, if_true, id, Bool.false_eq_true, if_false]
    congr 1
    funext it
    cases it with
    | user x | ins x => rfl
    | block k s b e => cases k <;> rfl

theorem forall_patchExpected {P : Item → Prop} {isMain : Bool} {X : List Item} (hg : P genBlockItem)
    (hX : ∀ it ∈ X, P it) : ∀ it ∈ patchExpected isMain X, P it := by
  have g := List.forall_mem_singleton.mpr hg
  have h3 := forall_replaceK .generate g (forall_replaceK .insert g (forall_replaceK .delete (List.forall_mem_nil _) hX))
  rw [patchExpected_eq_replaceK]
  cases isMain
  · exact h3
  · exact forall_replaceK .main (List.forall_mem_nil _) h3

theorem userItems_patchExpected (isMain : Bool) (X : List Item) :
    userItems (patchExpected isMain X) = userItems X := by
  have hg : userItems [genBlockItem] = [] := by simp [userItems, genBlock_kind]
  have h3 : userItems (replaceK .generate [genBlockItem] (replaceK .insert [genBlockItem] (replaceK .delete [] X)))
      = userItems X := by
    rw [userItems_replaceK _ hg, userItems_replaceK _ hg, userItems_replaceK _ rfl]
  rw [patchExpected_eq_replaceK]
  cases isMain
  · exact h3
  · exact (userItems_replaceK .main rfl _).trans h3

/-- an item of kind `k`, with the blank lines in front of it, is one match of the regexp of `k` -/
theorem matchAt_item {k : Mk} {it : Item} (hw : it.wf = true) (hk : isK k it = true)
    {bs : List Line} (hbs : bs.all isBlank = true) (rest : List Line) :
    matchAt k (bs ++ (it.lines ++ rest)) = some rest := by
  rw [matchAt_blanks hbs]
  cases it with
  | user x => cases hk
  | ins x =>
    obtain rfl : Mk.insert = k := by simpa [isK, Item.kind] using hk
    exact (matchAt_start hw rest).trans (if_pos rfl)
  | block k' s body e =>
    obtain rfl : k' = k := by simpa [isK, Item.kind] using hk
    simp only [Item.wf, Bool.and_eq_true] at hw
    obtain ⟨⟨⟨hbk, hs⟩, hb⟩, he⟩ := hw
    have hne : k' ≠ .insert := by rintro rfl; cases hbk
    simpa [Item.lines, matchAt_start hs, hne] using afterEnd_plain_body rest hb he

/-- an item of another kind is copied, with the blank lines in front of it -/
theorem pass_item_other {k : Mk} (hk : k ≠ .endm) {it : Item} (hw : it.wf = true) (hb : it.isBlankUser = false)
    (hik : isK k it = false) {repl bs : List Line} (hbs : bs.all isBlank = true) (rest : List Line) :
    pass k repl (bs ++ (it.lines ++ rest))
      = ((pass k repl rest).1, bs ++ (it.lines ++ (pass k repl rest).2)) := by
  have hbk : ∀ x ∈ bs, startsMk k x = false := fun x hx => blank_not_starts (List.all_eq_true.mp hbs x hx) k
  cases it with
  | user x => exact pass_copy repl rest hbk hb (plain_not_starts hw k)
  | ins x =>
    have hne : k ≠ .insert := by rintro rfl; simp [isK, Item.kind] at hik
    exact pass_copy repl rest hbk (startsMk_not_blank hw) (startsMk_other hw hne)
  | block k' s body e =>
    have hne : k ≠ k' := by rintro rfl; simp [isK, Item.kind] at hik
    simp only [Item.wf, Bool.and_eq_true] at hw
    obtain ⟨⟨⟨_, hs⟩, hbd⟩, he⟩ := hw
    have hxs : ∀ x ∈ bs ++ s :: body, startsMk k x = false :=
      List.forall_mem_append.mpr ⟨hbk, List.forall_mem_cons.mpr
        ⟨startsMk_other hs hne, fun x h => plain_not_starts (List.all_eq_true.mp hbd x h) k⟩⟩
    simpa [Item.lines] using pass_copy repl rest hxs (startsMk_not_blank he) (startsMk_other he hk)

/-- the text `l` and the well-formed arrangement `X` agree up to blank lines: `l` is `X` without
    some of its blank user lines and with blank lines in front of any item and at the end (the
    regexps' `\s*` takes blank lines with a match). A blank user line is never an `item`: it is
    `skip`ped, and where the text has it, it stands among the `bs` of the next constructor; so
    every `item` begins with a non-blank line, where a copied stretch can end (`pass_copy`). -/
inductive Arr : List Line → List Item → Prop
  | nil {bs : List Line} : bs.all isBlank = true → Arr bs []
  | skip {x : Line} {l : List Line} {X : List Item} : isBlank x = true → Arr l X → Arr l (.user x :: X)
  | item {bs : List Line} {it : Item} {l : List Line} {X : List Item} :
      bs.all isBlank = true → it.wf = true → it.isBlankUser = false → Arr l X →
      Arr (bs ++ (it.lines ++ l)) (it :: X)

theorem nonBlank_blanks {bs : List Line} (hbs : bs.all isBlank = true) : nonBlank bs = [] :=
  List.filter_eq_nil_iff.mpr fun x hx => by rw [List.all_eq_true.mp hbs x hx]; exact Bool.false_ne_true

namespace Arr
variable {l : List Line} {X : List Item}

theorem blanks {bs : List Line} (hbs : bs.all isBlank = true) (h : Arr l X) : Arr (bs ++ l) X := by
  induction h with
  | nil h0 => exact .nil (by rw [List.all_append, hbs, h0]; rfl)
  | skip hx _ ih => exact .skip hx ih
  | item h0 hw hb a _ =>
    rw [← List.append_assoc]
    exact .item (by rw [List.all_append, hbs, h0]; rfl) hw hb a

theorem items {I : List Item} (hwf : ∀ it ∈ I, it.wf = true) (h : Arr l X) : Arr (flatten I ++ l) (I ++ X) := by
  induction I with
  | nil => exact h
  | cons it r ih =>
    have hr := ih fun i hi => hwf i (List.mem_cons_of_mem _ hi)
    rw [flatten_cons, List.append_assoc]
    cases hb : it.isBlankUser with
    | false => exact .item (bs := []) rfl (hwf it List.mem_cons_self) hb hr
    | true =>
      cases it with
      | user x =>
        have hx : [x].all isBlank = true := by rw [List.all_cons, show isBlank x = true from hb]; rfl
        exact .skip hb (hr.blanks hx)
      | ins x | block k s b e => cases hb

theorem of_items {I : List Item} (hwf : ∀ it ∈ I, it.wf = true) : Arr (flatten I) I := by
  simpa using items hwf (.nil (bs := []) rfl)

theorem wf (h : Arr l X) : ∀ it ∈ X, it.wf = true := by
  induction h with
  | nil => exact List.forall_mem_nil _
  | skip hx _ ih => exact List.forall_mem_cons.mpr ⟨plain_of_blank hx, ih⟩
  | item _ hw _ _ ih => exact List.forall_mem_cons.mpr ⟨hw, ih⟩

theorem nonBlank_eq (h : Arr l X) : nonBlank l = nonBlank (flatten X) := by
  induction h with
  | nil hbs => exact nonBlank_blanks hbs
  | skip hx _ ih => simpa [nonBlank, Item.lines, hx] using ih
  | item hbs _ _ _ ih =>
    rw [flatten_cons, nonBlank_append, nonBlank_append, nonBlank_append, ih, nonBlank_blanks hbs]; rfl

theorem plain (h : Arr l X) (hu : ∀ it ∈ X, it.kind = none) : l.all GoatSpec.plain = true := by
  induction h with
  | nil hbs => exact plain_of_blanks hbs
  | skip _ _ ih => exact ih fun i hi => hu i (List.mem_cons_of_mem _ hi)
  | @item _ it _ _ hbs hw _ _ ih =>
    have hk := hu it List.mem_cons_self
    rw [List.all_append, List.all_append, plain_of_blanks hbs,
      ih fun i hi => hu i (List.mem_cons_of_mem _ hi), Bool.and_true, Bool.true_and]
    cases it with
    | user x => simpa [Item.lines, Item.wf] using hw
    | ins x | block k s b e => cases hk

/-- **One pass, at item level.** A match takes the blank lines in front of its item with it. -/
theorem pass (k : Mk) (hk : k ≠ .endm) {R : List Item} (hR : ∀ it ∈ R, it.wf = true) (h : Arr l X) :
    (GoatSpec.pass k (flatten R) l).1 = cntK k X ∧ Arr (GoatSpec.pass k (flatten R) l).2 (replaceK k R X) := by
  induction h with
  | @nil bs hbs =>
    rw [pass_noM (hasM_of_plain k (plain_of_blanks hbs))]
    exact ⟨rfl, .nil hbs⟩
  | skip hx _ ih => exact ⟨ih.1, ih.2.skip hx⟩  -- `cntK` and `replaceK` step over a user item by `rfl`
  | @item bs it l X hbs hw hb _ ih =>
    obtain ⟨c, a⟩ := ih
    rw [cntK_cons, replaceK_cons]
    cases hik : isK k it with
    | true => rw [pass_some _ (matchAt_item hw hik hbs l)]; exact ⟨by simp [c], a.items hR⟩
    | false => rw [pass_item_other hk hw hb hik hbs l]; exact ⟨by simp [c], a.item hbs hw hb⟩

theorem erase (k : Mk) (hk : k ≠ .endm) (h : Arr l X) :
    (GoatSpec.pass k [] l).1 = cntK k X ∧ Arr (GoatSpec.pass k [] l).2 (replaceK k [] X) :=
  h.pass k hk (R := []) (List.forall_mem_nil _)

end Arr

end GoatSpec
