import GoatSpec.Ids
/-! The fuelled import walk `collect`: what it keeps, what it may add, and that with fuel > number of packages
    not yet visited the result is closed under imports. -/
namespace GoatSpec

/-- `v'` extends `v`, by members of `G` only -/
structure Adds (G : Nat → Prop) (v v' : List Nat) : Prop where
  mono : ∀ x ∈ v, x ∈ v'
  new : ∀ x ∈ v', x ∈ v ∨ G x

theorem Adds.refl {G : Nat → Prop} {v : List Nat} : Adds G v v := ⟨fun _ h => h, fun _ h => .inl h⟩

theorem Adds.trans {G : Nat → Prop} {a b c : List Nat} (h1 : Adds G a b) (h2 : Adds G b c) : Adds G a c where
  mono x hx := h2.mono x (h1.mono x hx)
  new x hx := (h2.new x hx).elim (h1.new x) .inr

/-- `G` is any import-closed set that holds the imports of the start
    (`G := True` gives monotonicity, `G := Reach imp dir` soundness) -/
theorem collect_bounds (imp : Nat → List Nat) (G : Nat → Prop) (hG : ∀ p, G p → ∀ q ∈ imp p, G q) :
    (∀ fuel dir v, (∀ q ∈ imp dir, G q) → Adds G v (collect imp fuel dir v)) ∧
    (∀ fuel ps cur v, (∀ q ∈ ps, G q) → Adds G v (collectL imp fuel ps cur v)) := by
  apply collect.mutual_induct imp
  · intro dir v _; rw [collect]; exact .refl  -- `collect` out of fuel
  · intro fuel dir v ih h; rw [collect]; exact ih h  -- `collect` enters `dir`: the loop over its imports
  · intro fuel cur v _; rw [collectL]; exact .refl  -- the loop is through
  · intro fuel p ps cur v hpv ih h  -- `p` was visited: skipped
    rw [collectL, if_pos hpv]; exact ih fun q hq => h q (.tail _ hq)
  · intro fuel p ps cur v hpv v1 v2 ih1 _ ih2 h  -- `p` is new: `v1 = p :: v`, `v2` after entering `p` (not if `p = cur`)
    rw [collectL, if_neg hpv]
    have hp : G p := h p (.head _)
    -- one step of the loop: `v ⊆ v1 ⊆ v2 ⊆ v ∪ G`, with `v1 = p :: v`
    have cons : Adds G v v1 :=
      ⟨fun _ hx => .tail _ hx, fun _ hx => (List.mem_cons.mp hx).elim (fun e => .inr (e ▸ hp)) .inl⟩
    have step : Adds G v1 v2 := by
      -- `v2` is let-bound by `mutual_induct`: `show` unfolds it to the `if` of `collectL`
      show Adds G v1 (if _ : p ≠ cur then _ else _)
      split
      · exact ih1 (hG p hp)
      · exact .refl
    exact cons.trans (step.trans (ih2 fun q hq => h q (.tail _ hq)))

/-- packages of the universe `U` not yet in `v`: what the fuel is measured against -/
def unvisited (U v : List Nat) : Nat := (U.filter (fun p => decide (p ∉ v))).length

theorem unvisited_mono (U : List Nat) {v w : List Nat} (h : ∀ x ∈ v, x ∈ w) : unvisited U w ≤ unvisited U v := by
  simp only [unvisited, ← List.countP_eq_length_filter]
  exact List.countP_mono_left fun a _ ha => by simpa using fun hv => (of_decide_eq_true ha) (h a hv)

theorem unvisited_cons_lt {U v : List Nat} {p : Nat} (hp : p ∈ U) (hv : p ∉ v) :
    unvisited U (p :: v) < unvisited U v := by
  unfold unvisited
  have e : U.filter (fun q => decide (q ∉ p :: v)) = (U.filter (fun q => decide (q ∉ v))).filter (fun q => decide (q ≠ p)) := by
    rw [List.filter_filter]
    apply List.filter_congr
    intro a _
    simp only [List.mem_cons, not_or, Bool.decide_and]
  rw [e]
  apply List.length_filter_lt_length_iff_exists.mpr
  exact ⟨p, List.mem_filter.mpr ⟨hp, by simpa using hv⟩, by simp⟩

/-- `v'` extends `v`, and every package new in `v'` has all its imports in `v'` -/
structure Post (imp : Nat → List Nat) (v v' : List Nat) : Prop where
  mono : ∀ x ∈ v, x ∈ v'
  closed : ∀ p ∈ v', p ∉ v → ∀ q ∈ imp p, q ∈ v'

/-- `Post` for the loop over the imports of `cur`: a self-import `cur` is added without being
    entered, its closedness is the caller's business -/
structure PostL (imp : Nat → List Nat) (cur : Nat) (v v' : List Nat) : Prop where
  mono : ∀ x ∈ v, x ∈ v'
  closed : ∀ p ∈ v', p ∉ v → p ≠ cur → ∀ q ∈ imp p, q ∈ v'

theorem PostL.trans {imp : Nat → List Nat} {cur : Nat} {a b c : List Nat} (h1 : PostL imp cur a b)
    (h2 : PostL imp cur b c) : PostL imp cur a c where
  mono x hx := h2.mono x (h1.mono x hx)
  closed p hp hpa hpc q hq :=
    if hb : p ∈ b then h2.mono q (h1.closed p hb hpa hpc q hq) else h2.closed p hp hb hpc q hq

/-- The bound is strict for `collect` and not for `collectL` because `collect` spends one unit of fuel to enter `dir`. -/
theorem collect_complete (imp : Nat → List Nat) (U : List Nat) (hU : ∀ p, ∀ q ∈ imp p, q ∈ U) :
    (∀ fuel dir v, unvisited U v < fuel →
      (∀ q ∈ imp dir, q ∈ collect imp fuel dir v) ∧ Post imp v (collect imp fuel dir v)) ∧
    (∀ fuel ps cur v, unvisited U v ≤ fuel → (∀ q ∈ ps, q ∈ imp cur) →
      (∀ q ∈ ps, q ∈ collectL imp fuel ps cur v) ∧ PostL imp cur v (collectL imp fuel ps cur v)) := by
  apply collect.mutual_induct imp  -- the five cases in the order of `collect_bounds`
  · intro dir v hf; exact absurd hf (Nat.not_lt_zero _)
  · intro fuel dir v ih hf
    rw [collect]
    obtain ⟨hin, post⟩ := ih (Nat.le_of_lt_succ hf) fun _ h => h
    -- the imports of `dir` itself are in by `hin`
    exact ⟨hin, post.mono, fun p hp hpv q hq =>
      if hpd : p = dir then hin q (hpd ▸ hq) else post.closed p hp hpv hpd q hq⟩
  · intro fuel cur v _ _
    rw [collectL]; exact ⟨List.forall_mem_nil _, fun _ h => h, fun p hp hpv => absurd hp hpv⟩
  · intro fuel p ps cur v hpv ih hf hps
    rw [collectL, if_pos hpv]
    obtain ⟨hin, post⟩ := ih hf fun q hq => hps q (.tail _ hq)
    exact ⟨List.forall_mem_cons.mpr ⟨post.mono p hpv, hin⟩, post⟩
  · intro fuel p ps cur v hpv v1 v2 ih1 _ ih2 hf hps
    rw [collectL, if_neg hpv]
    have hlt : unvisited U v1 < fuel :=
      Nat.lt_of_lt_of_le (unvisited_cons_lt (hU cur p (hps p (.head _))) hpv) hf
    -- one step of the loop: `p` is in, and what came in with it is closed
    have step : unvisited U v2 ≤ fuel ∧ p ∈ v2 ∧ PostL imp cur v v2 := by
      -- `show`: as in `collect_bounds`
      show unvisited U (if _ : p ≠ cur then _ else _) ≤ fuel ∧ p ∈ (if _ : p ≠ cur then _ else _)
        ∧ PostL imp cur v (if _ : p ≠ cur then _ else _)
      split
      · obtain ⟨hin, post⟩ := ih1 hlt
        refine ⟨Nat.le_trans (unvisited_mono U post.mono) (Nat.le_of_lt hlt), post.mono p (.head _),
          { mono := fun x hx => post.mono x (.tail _ hx), closed := fun x hx hxv _ q hq => ?_ }⟩
        by_cases hxp : x = p
        · exact hin q (hxp ▸ hq)
        · exact post.closed x hx (fun h => (List.mem_cons.mp h).elim hxp hxv) q hq
      · next hpc =>
        refine ⟨Nat.le_of_lt hlt, .head _, { mono := fun x hx => .tail _ hx, closed := fun x hx hxv hxc => ?_ }⟩
        rcases List.mem_cons.mp hx with rfl | h
        · exact absurd hxc hpc
        · exact absurd h hxv
    obtain ⟨hfuel, hp, post1⟩ := step
    obtain ⟨hin, post2⟩ := ih2 hfuel fun q hq => hps q (.tail _ hq)
    exact ⟨List.forall_mem_cons.mpr ⟨post2.mono p hp, hin⟩, post1.trans post2⟩

theorem collectL_complete (imp : Nat → List Nat) (U : List Nat) (hU : ∀ p, ∀ q ∈ imp p, q ∈ U)
    (fuel : Nat) (ps : List Nat) (cur : Nat) (v : List Nat) (hf : unvisited U v ≤ fuel)
    (hps : ∀ q ∈ ps, q ∈ imp cur) :
    (∀ q ∈ ps, q ∈ collectL imp fuel ps cur v) ∧
    (∀ x ∈ v, x ∈ collectL imp fuel ps cur v) ∧
    (∀ p ∈ collectL imp fuel ps cur v, p ∉ v → p ≠ cur → ∀ q ∈ imp p, q ∈ collectL imp fuel ps cur v) :=
  have ⟨hin, post⟩ := (collect_complete imp U hU).2 fuel ps cur v hf hps
  ⟨hin, post.mono, post.closed⟩

end GoatSpec
