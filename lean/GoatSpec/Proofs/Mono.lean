import GoatSpec.Proofs.Mark
import GoatSpec.Proofs.Patch
/-! The same events at a coarser granularity yield a subset of the positions of a finer one: two runs over the same
    event list, simulated side by side (`run_rel`). -/
namespace GoatSpec

def Env.withGran (env : Env) (g : Gran) : Env := { env with gran := g }

theorem withGran_isChanged (env : Env) (g : Gran) (l : Nat) : (env.withGran g).isChanged l = env.isChanged l := rfl

theorem Env.Same.withGran_right (env : Env) (g : Gran) : env.Same (env.withGran g) := ⟨rfl, rfl, rfl⟩

theorem Env.Same.withGran (env : Env) (g g' : Gran) : (env.withGran g).Same (env.withGran g') := ⟨rfl, rfl, rfl⟩

/-- a new position of the coarse run is the target of the line, and the line run inserts it -/
theorem sub_line {eC eL : Env} (he : eC.Same eL) (hgC : eC.gran ≠ .func) (hgL : eL.gran = .line)
    {evs : List Ev} {sC sL : MState} (hC : runEvents eC evs = .ok sC) (hL : runEvents eL evs = .ok sL) :
    sC.multi ⊆ sL.multi ∧ sC.singles = sL.singles ∧ sC.count ≤ sL.count := by
  have h : sC.multi ⊆ sL.multi ∧ sC.singles = sL.singles := by
    refine run_rel he.changed (fun sC sL => sC.multi ⊆ sL.multi ∧ sC.singles = sL.singles) ?_
      (fun p _ _ h => ⟨h.1, congrArg (· ++ [p]) h.2⟩) ⟨List.nil_subset _, rfl⟩ hC hL
    intro l _ sC sC' sL sL' ⟨hs, hsg⟩ hC hL
    have c := forceMark_spec hC
    refine ⟨fun x hx => ?_, by rw [c.singles, (forceMark_spec hL).singles, hsg]⟩
    rcases c.new x hx with h1 | ⟨ht, hf⟩
    · exact (forceMark_spec hL).mono (hs h1)
    · exact forceMark_mem (Or.inl hgL) hL (target_congr he hgC (by rw [hgL]; decide) ht) (he.funcs ▸ hf)
  exact ⟨h.1, h.2, (runEvents_inv hC).count_le (runEvents_inv hL)
    (List.Nodup.length_le_of_subset (runEvents_inv hC).nodup h.1) h.2⟩

theorem fill_spec (env : Env) (s : Nat) : ∀ (fuel i : Nat) (acc m : Array Nat),
    newPatchScope.fill env s i fuel acc = .ok m →
    m.size = acc.size + fuel ∧ (∀ k (hk : k < m.size), (∀ (hka : k < acc.size), acc[k] ≤ 1) → m[k] ≤ 1) := by
  intro fuel i acc m h
  cases Patch.fill_eq h
  refine ⟨by simp, fun k hk hacc => ?_⟩
  rw [Array.getElem_append]
  split
  · next hka => exact hacc hka
  · rw [Array.getElem_ofFn]; split <;> decide

theorem newPatchScope_spec (env : Env) (s e : Nat) (ps : PatchScope) (h : newPatchScope env s e = .ok ps) :
    ps.s = s ∧ ps.e = e ∧ ps.marks.size = e - s - 1 ∧ ∀ k (hk : k < ps.marks.size), ps.marks[k] ≤ 1 := by
  simp only [newPatchScope] at h
  split at h
  · cases h
  · next m hf =>
    cases h
    obtain ⟨h1, h2⟩ := fill_spec env s _ 0 #[] m hf
    exact ⟨rfl, rfl, by simpa using h1, fun k hk => h2 k hk fun hka => absurd hka (Nat.not_lt_zero _)⟩

/-- `canInsert` answers on every line of the array, and `false` needs a mark 2, which a fresh array has not -/
theorem canInsert_fresh {env : Env} {s e line : Nat} {ps : PatchScope} (h : newPatchScope env s e = .ok ps)
    (h1 : s < line) (h2 : line < e) : ps.canInsert line = .ok true := by
  obtain ⟨hs, he, hsz, hmk⟩ := Patch.newPatchScope_spec env s e ps h
  subst hs he
  obtain ⟨b, hb⟩ := Patch.canInsert_ok_iff.mpr ⟨h1, by omega⟩
  cases b
  · obtain ⟨_, j0, hj0, _, htwo, _⟩ := Patch.canInsert_false ps line hb
    rw [hmk j0 hj0] at htwo
    split at htwo <;> cases htwo
  · exact hb

/-- a scope-granularity run against a patch-granularity run over the same events -/
structure SPRel (stS stP : MState) : Prop where
  sub : ∀ x ∈ stS.multi, x ∈ stP.multi
  singles : stS.singles = stP.singles
  keys : ∀ key, stS.visitedScopes.contains key = (List.lookup key stP.patch).isSome

/-- one `forceMark` in both runs keeps `SPRel`: a key the scope run opens has no patch scope yet, so
    the patch run registers a fresh one, which lets the line insert (`canInsert_fresh`) -/
theorem force_scope_patch {eS eP : Env} (he : eS.Same eP) (htr : eP.trees = eS.trees)
    (hgS : eS.gran = .scope) (hgP : eP.gran = .patch) {stS stS' stP stP' : MState} {l : Nat} (hr : SPRel stS stP)
    (hS : forceMark eS stS l = .ok stS') (hP : forceMark eP stP l = .ok stP') : SPRel stS' stP' := by
  have sP := forceMark_spec hP
  rcases forceMark_scope_ok hgS hS with ⟨rfl, hv⟩ | ⟨t, ht, hnv, hmS⟩
  · refine ⟨fun x hx => sP.mono (hr.sub x hx), by rw [sP.singles]; exact hr.singles, fun k => ?_⟩
    rcases forceMark_patch_spec hgP hP with ⟨_, rfl⟩ | ⟨t, ps, ps', ht, -, hlk, -⟩
    · exact hr.keys k
    · rw [hlk]
      split
      · next e => simpa [eq_of_beq e] using hv t (htr ▸ ht)
      · exact hr.keys k
  · have hin := searchTrees_some ht
    rw [← htr] at ht
    have hlk : stP.patch.lookup (t.search l) = none :=
      Option.not_isSome_iff_eq_none.mp (by rw [← hr.keys]; simpa using hnv)
    rcases forceMark_patch_spec hgP hP with ⟨hn, _⟩ | ⟨t', ps, ps', ht', h1, hlk', h2⟩
    · rw [ht] at hn; cases hn
    · cases ht.symm.trans ht'
      obtain ⟨_, hps⟩ := h1.resolve_left fun h => nomatch hlk.symm.trans h
      rcases h2 with ⟨hc, _⟩ | ⟨_, _, r', hr2, hmemP⟩
      · rw [canInsert_fresh hps hin.1 hin.2] at hc; cases hc
      · obtain ⟨r, hr1, insS⟩ := markInsert_spec hmS
        rw [he.skip] at hr2
        rw [he.funcs] at hmemP
        cases hr1.symm.trans hr2
        refine ⟨fun x hx => (hmemP x).mpr (((insS.mem x).mp hx).imp_left (hr.sub x)),
          by rw [insS.singles, sP.singles]; exact hr.singles, fun k => ?_⟩
        rw [hlk', insS.visitedScopes]
        by_cases hk : k = t.search l <;> simp [hk, ← hr.keys k]

theorem sub_patch {eS eP : Env} (he : eS.Same eP) (htr : eP.trees = eS.trees)
    (hgS : eS.gran = .scope) (hgP : eP.gran = .patch) {evs : List Ev} {sS sP : MState}
    (hS : runEvents eS evs = .ok sS) (hP : runEvents eP evs = .ok sP) :
    sS.multi ⊆ sP.multi ∧ sS.singles = sP.singles ∧ sS.count ≤ sP.count := by
  have h : SPRel sS sP :=
    run_rel he.changed SPRel (fun _ _ _ _ _ _ hr hS hP => force_scope_patch he htr hgS hgP hr hS hP)
      (fun p _ _ hr => ⟨hr.sub, congrArg (· ++ [p]) hr.singles, hr.keys⟩)
      (⟨List.forall_mem_nil _, rfl, fun _ => rfl⟩ : SPRel {} {}) hS hP
  exact ⟨h.sub, h.singles, (runEvents_inv hS).count_le (runEvents_inv hP)
    (List.Nodup.length_le_of_subset (runEvents_inv hS).nodup h.sub) h.singles⟩

end GoatSpec
