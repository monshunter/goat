import GoatSpec.Proofs.Text
/-! When a pass finds nothing. Without a match of its kind (`hasM`) a pass is the identity; an erasing
    pass only removes lines and leaves no match of its kind; so `goat clean` is idempotent.
    For every text (no well-formedness). -/
namespace GoatSpec

/-- the regexp of kind `k` has a match somewhere in the text -/
def hasM (k : Mk) : List Line → Bool
  | [] => false
  | x :: r =>
    (startsMk k x && (match k with | .insert => true | _ => r.any (startsMk .endm))) || hasM k r

theorem afterEnd_isSome (r : List Line) : (afterEnd r).isSome = r.any (startsMk .endm) := by
  induction r with
  | nil => rfl
  | cons x t ih => rw [afterEnd, List.any_cons]; cases startsMk .endm x <;> simp [ih]

theorem afterEnd_sublist {l r : List Line} (h : afterEnd l = some r) : r.Sublist l := by
  induction l with
  | nil => cases h
  | cons y t ih =>
    rw [afterEnd] at h; split at h
    · cases h; exact List.sublist_cons_self _ _
    · exact (ih h).trans (List.sublist_cons_self y t)

/-- `hasM` in the terms of `matchAt_start` -/
theorem hasM_cons (k : Mk) (x : Line) (r : List Line) :
    hasM k (x :: r) = (startsMk k x && (if k = .insert then some r else afterEnd r).isSome || hasM k r) := by
  cases k <;> simp [hasM, afterEnd_isSome]

theorem hasM_tail {k : Mk} {x : Line} {r : List Line} (h : hasM k (x :: r) = false) : hasM k r = false :=
  (Bool.or_eq_false_iff.mp h).2

theorem matchAt_some {k : Mk} {l rest : List Line} (h : matchAt k l = some rest) :
    rest.Sublist l ∧ hasM k l = true := by
  induction l with
  | nil => rw [matchAt_nil] at h; cases h
  | cons x t ih =>
    rw [hasM_cons]
    cases hs : startsMk k x with
    | true =>
      rw [matchAt_start hs] at h
      refine ⟨.trans ?_ (List.sublist_cons_self x t), by simp [h]⟩
      split at h
      · cases h; exact .refl _
      · exact afterEnd_sublist h
    | false =>
      cases hb : isBlank x with
      | true =>
        have := ih (matchAt_blank hb t ▸ h)
        exact ⟨this.1.trans (List.sublist_cons_self x t), by simp [this.2]⟩
      | false => rw [matchAt_other hb hs] at h; cases h

theorem pass_noM {k : Mk} {repl : List Line} {l : List Line} (h : hasM k l = false) : pass k repl l = (0, l) := by
  fun_induction pass k repl l with
  | case1 => rfl
  | case2 x r rest hm p ih => rw [(matchAt_some hm).2] at h; cases h
  | case3 x r hm p ih => rw [show p = (0, r) from ih (hasM_tail h)]

theorem pass_sublist (k : Mk) (l : List Line) : (pass k [] l).2.Sublist l := by
  fun_induction pass k [] l with
  | case1 => exact .refl _
  | case2 x r rest hm p ih => exact ih.trans (matchAt_some hm).1
  | case3 x r hm p ih => exact ih.cons_cons x

theorem any_sublist {α : Type} {p : α → Bool} {a b : List α} (h : a.Sublist b) (hb : b.any p = false) : a.any p = false :=
  List.any_eq_false.mpr fun x hx => List.any_eq_false.mp hb x (h.subset hx)

theorem hasM_sublist {k : Mk} {a b : List Line} (h : a.Sublist b) (hb : hasM k b = false) : hasM k a = false := by
  induction h with
  | slnil => exact hb
  | cons x _ ih => exact ih (hasM_tail hb)
  | cons_cons x hs ih =>
    simp only [hasM, Bool.or_eq_false_iff, Bool.and_eq_false_iff] at hb ⊢
    refine ⟨hb.1.imp_right fun h1 => ?_, ih hb.2⟩
    -- `h1` and the goal are `true = false` for `insert`, "no end line follows" for the block kinds
    cases k <;> first | exact h1 | exact any_sublist hs h1

theorem hasM_pass (k : Mk) (l : List Line) : hasM k (pass k [] l).2 = false := by
  fun_induction pass k [] l with
  | case1 => rfl
  | case2 x r rest hm p ih => exact ih
  | case3 x r hm p ih =>
    show hasM k (x :: p.2) = false
    rw [hasM_cons, ih, Bool.or_false, Bool.and_eq_false_iff]
    cases hs : startsMk k x with
    | false => exact .inl rfl
    | true =>
      -- the match that failed at `x` for want of an end line still fails: the pass only removes lines
      rw [matchAt_start hs] at hm
      split at hm
      · cases hm
      · next hne =>
        have hr : r.any (startsMk .endm) = false := by rw [← afterEnd_isSome, hm]; rfl
        rw [if_neg hne, afterEnd_isSome, any_sublist (pass_sublist k r) hr]
        exact .inr rfl

theorem hasM_of_plain (k : Mk) {l : List Line} (h : l.all plain = true) : hasM k l = false := by
  induction l with
  | nil => rfl
  | cons x r ih =>
    rw [List.all_cons, Bool.and_eq_true] at h
    simp [hasM, plain_not_starts h.1 k, ih h.2]

/-! A list of erasing passes, as `cleanLines` composes them. -/

def erasePasses (ks : List Mk) (l : List Line) : List Line := ks.foldl (fun acc k => (pass k [] acc).2) l

theorem erasePasses_sublist (ks : List Mk) (l : List Line) : (erasePasses ks l).Sublist l := by
  induction ks generalizing l with
  | nil => exact .refl _
  | cons k ks ih => exact (ih _).trans (pass_sublist k l)

/-- what one pass has removed no later pass brings back -/
theorem hasM_erasePasses (ks : List Mk) (l : List Line) : ∀ k ∈ ks, hasM k (erasePasses ks l) = false := by
  induction ks generalizing l with
  | nil => exact List.forall_mem_nil _
  | cons k ks ih => exact List.forall_mem_cons.mpr ⟨hasM_sublist (erasePasses_sublist ks _) (hasM_pass k l), ih _⟩

end GoatSpec
