import GoatSpec.Mark
/-! The marking fold `runEvents`. `skipComments` and `markInsert` are specified once; `forceMark` is unfolded once per
    granularity (`forceMark_line`, `_func_ok`, `_scope_ok`, `_patch_ok`) and what all four share is `Forced`; a run is
    reasoned about through `run_trace` (one run: invariant, preorder, postcondition per active line) and `run_rel`
    (two runs over the same events), both instances of the two inductions over `foldlM` at the top. C01 / C03 / C09
    go through these. Around the fold: the two searches of `Scopes.lean` (`searchScopes_spec`, `searchTrees_some`), and at
    the end what `mkEnv` and `marks` give a caller who starts from a file (`mkEnv_eq`, `mkEnv_same`, `marks_run`). -/
namespace GoatSpec

theorem foldlM_ok_cons {α β ε : Type} (f : β → α → Except ε β) (b : β) (a : α) (l : List α) (r : β) :
    (a :: l).foldlM f b = .ok r ↔ ∃ b', f b a = .ok b' ∧ l.foldlM f b' = .ok r := by
  simp only [List.foldlM_cons]
  cases f b a <;> simp [bind, Except.bind]

theorem foldlM_trace {α β ε : Type} {f : β → α → Except ε β} (P : β → Prop) (Le : β → β → Prop) (Q : α → β → Prop)
    (refl : ∀ b, Le b b) (trans : ∀ {a b c}, Le a b → Le b c → Le a c) {l : List α}
    (step : ∀ a ∈ l, ∀ b b', P b → f b a = .ok b' → P b' ∧ Le b b' ∧ Q a b')
    (mono : ∀ a b b', Q a b → Le b b' → Q a b') {b r : β}
    (hb : P b) (h : l.foldlM f b = .ok r) : P r ∧ Le b r ∧ ∀ a ∈ l, Q a r := by
  induction l generalizing b with
  | nil =>
    cases h
    exact ⟨hb, refl _, List.forall_mem_nil _⟩
  | cons a l ih =>
    obtain ⟨b', h1, h2⟩ := (foldlM_ok_cons ..).mp h
    obtain ⟨hp, hle, hq⟩ := step a List.mem_cons_self b b' hb h1
    obtain ⟨hr, hle', hall⟩ := ih (fun a ha => step a (List.mem_cons_of_mem _ ha)) hp h2
    exact ⟨hr, trans hle hle', fun x hx => (List.mem_cons.mp hx).elim (fun e => e ▸ mono a b' r hq hle') (hall x)⟩

theorem foldlM_rel {α β γ ε : Type} {f : β → α → Except ε β} {g : γ → α → Except ε γ} (R : β → γ → Prop)
    {l : List α} (step : ∀ a ∈ l, ∀ b b' c c', R b c → f b a = .ok b' → g c a = .ok c' → R b' c')
    {b b' : β} {c c' : γ} (h0 : R b c) (hf : l.foldlM f b = .ok b') (hg : l.foldlM g c = .ok c') : R b' c' := by
  induction l generalizing b c with
  | nil =>
    cases hf
    cases hg
    exact h0
  | cons a l ih =>
    obtain ⟨b1, hf1, hf2⟩ := (foldlM_ok_cons ..).mp hf
    obtain ⟨c1, hg1, hg2⟩ := (foldlM_ok_cons ..).mp hg
    exact ih (fun a ha => step a (List.mem_cons_of_mem _ ha)) (step a List.mem_cons_self _ _ _ _ h0 hf1 hg1) hf2 hg2

/-! The two searches of `Scopes.lean`: both keep the last hit of a fold. -/

theorem foldl_last_cases {α β : Type} (c : α → Bool) (g : α → β) (l : List α) (init : β) :
    l.foldl (fun acc x => if c x then g x else acc) init = init ∨
      ∃ x ∈ l, c x = true ∧ l.foldl (fun acc x => if c x then g x else acc) init = g x := by
  refine List.foldlRecOn (motive := fun r => r = init ∨ ∃ x ∈ l, c x = true ∧ r = g x) l _ (.inl rfl)
    fun r hr a ha => ?_
  split
  · next hc => exact .inr ⟨a, ha, hc, rfl⟩
  · exact hr

theorem searchScopes_spec (scopes : List (Nat × Nat)) (line : Nat) (h : searchScopes scopes line ≠ 0) :
    ∃ p, scopes[searchScopes scopes line]? = some p ∧ p.1 < line ∧ line < p.2 := by
  rcases foldl_last_cases (fun p : (Nat × Nat) × Nat => p.1.1 < line && line < p.1.2) (·.2) scopes.zipIdx 0
    with h0 | ⟨q, hq, hc, hr⟩
  · exact absurd h0 h
  · simp only [Bool.and_eq_true, decide_eq_true_eq] at hc
    refine ⟨q.1, ?_, hc⟩
    rw [searchScopes, hr]
    exact List.mem_zipIdx_iff_getElem?.mp hq

theorem searchTrees_some {ts : List TScope} {line : Nat} {t : TScope} (h : searchTrees ts line = some t) :
    t.s < line ∧ line < t.e := by
  rcases foldl_last_cases (fun t : TScope => t.s < line && line < t.e) some ts none with h0 | ⟨x, _, hc, hr⟩
  · cases h0.symm.trans h
  · cases hr.symm.trans h
    simpa using hc

theorem skipComments_spec (env : Env) : ∀ (fuel l r : Nat), skipComments env fuel l = .ok r →
    env.isComment r = .ok false ∧ l ≤ r := by
  intro fuel l
  fun_induction skipComments env fuel l with
  | case1 | case2 => nofun  -- out of fuel, or the array is read beyond its end
  | case3 _ _ _ ih => exact fun r h => (ih r h).imp_right Nat.le_of_succ_le  -- a comment line: the search goes on
  | case4 _ _ hc => exact fun r h => by cases h; exact ⟨hc, Nat.le_refl _⟩  -- the first line that is no comment

theorem skipComments_id (env : Env) (fuel l : Nat) (h : env.isComment l = .ok false) :
    skipComments env (fuel+1) l = .ok l := by
  simp [skipComments, h]

theorem skipComments_first (env : Env) : ∀ (fuel l r : Nat), skipComments env fuel l = .ok r →
    ∀ j, l ≤ j → j < r → env.isComment j = .ok true := by
  intro fuel l
  fun_induction skipComments env fuel l with
  | case1 | case2 => nofun
  | case3 _ l hc ih =>  -- `l` is a comment line
    intro r h j hlj hjr
    by_cases hj : j = l
    · subst hj; exact hc
    · exact ih r h j (by omega) hjr
  | case4 => intro r h; cases h; omega  -- `r = l`: no `j` in between

theorem Env.lt_of_isComment {env : Env} {l : Nat} {c : Bool} (h : env.isComment l = .ok c) : l < env.comments.size := by
  unfold Env.isComment at h
  split at h
  · assumption
  · cases h

theorem skipComments_exists (env : Env) : ∀ (d l : Nat) (fuel : Nat), d < fuel →
    env.isComment (l + d) = .ok false → ∃ r, skipComments env fuel l = .ok r := by
  intro d l fuel
  fun_induction skipComments env fuel l generalizing d with
  | case1 => exact fun h => absurd h (Nat.not_lt_zero d)
  | case2 _ l e he =>  -- the read of `l` fails: it cannot, that of `l + d` succeeds
    intro _ hj
    have hin : l < env.comments.size := Nat.lt_of_le_of_lt (Nat.le_add_right ..) (Env.lt_of_isComment hj)
    simp [Env.isComment, hin] at he
  | case3 _ l hc ih =>  -- `l` is a comment line, so `d > 0`
    intro hf hj
    cases d with
    | zero => cases hc.symm.trans hj
    | succ n => exact ih n (Nat.lt_of_succ_lt_succ hf) (by rwa [Nat.add_assoc, Nat.add_comm 1])
  | case4 _ l => exact fun _ _ => ⟨l, rfl⟩

theorem skipComments_congr {env env' : Env} (h : env'.comments = env.comments) (fuel l : Nat) :
    skipComments env' fuel l = skipComments env fuel l := by
  induction fuel generalizing l with
  | zero => rfl
  | succ f ih => simp only [skipComments, Env.isComment, h, ih]

theorem isChanged_congr {env env' : Env} (h : env'.changed = env.changed) (l : Nat) :
    env'.isChanged l = env.isChanged l := by
  simp only [Env.isChanged, h]

theorem isChanged_true {env : Env} {l : Nat} : env.isChanged l = .ok true ↔ env.changed.getD l false = true := by
  unfold Env.isChanged
  split <;> simp_all

/-- environments of the same file and change set: they may differ in granularity and track scopes (and in `n`, which
    nothing reads) -/
structure Env.Same (e1 e2 : Env) : Prop where
  changed : e2.changed = e1.changed
  comments : e2.comments = e1.comments
  funcs : e2.funcs = e1.funcs

theorem Env.Same.refl (e : Env) : e.Same e := ⟨rfl, rfl, rfl⟩

theorem Env.Same.skip {e1 e2 : Env} (h : e1.Same e2) (l : Nat) :
    skipComments e2 (e2.comments.size + 1) l = skipComments e1 (e1.comments.size + 1) l := by
  rw [skipComments_congr h.comments, h.comments]

/-- what every recorded multi-line position satisfies, and `count` as the number of recorded positions -/
structure Inv (env : Env) (st : MState) : Prop where
  nodup : st.multi.Nodup
  notComment : ∀ l ∈ st.multi, env.isComment l = .ok false
  inFunc : ∀ l ∈ st.multi, searchScopes env.funcs l ≠ 0
  count : st.count = st.multi.length + st.singles.length

theorem Inv.init (env : Env) : Inv env {} :=
  ⟨List.nodup_nil, List.forall_mem_nil _, List.forall_mem_nil _, rfl⟩

/-- what the invariant and the results read of a state: not `visitedScopes`, not `patch` -/
def MState.core (st : MState) : List Nat × List (Nat × Nat) × Nat := (st.multi, st.singles, st.count)

theorem MState.core_eq {st st' : MState} (e : st'.core = st.core) :
    st'.multi = st.multi ∧ st'.singles = st.singles ∧ st'.count = st.count := by
  simpa only [MState.core, Prod.mk.injEq] using e

theorem Inv.congr {env : Env} {st st' : MState} (h : Inv env st) (e : st'.core = st.core) : Inv env st' := by
  obtain ⟨hm, hs, hc⟩ := MState.core_eq e
  exact ⟨hm ▸ h.nodup, hm ▸ h.notComment, hm ▸ h.inFunc, by rw [hm, hs, hc]; exact h.count⟩

/-- what `markInsert` with insert position `r` does: `r` is recorded when it lies inside a function, nothing else moves -/
structure Inserted (env : Env) (r : Nat) (st st' : MState) : Prop where
  mem : ∀ x, x ∈ st'.multi ↔ x ∈ st.multi ∨ (x = r ∧ searchScopes env.funcs r ≠ 0)
  singles : st'.singles = st.singles
  visitedScopes : st'.visitedScopes = st.visitedScopes
  patch : st'.patch = st.patch
  inv : Inv env st → Inv env st'

theorem Inserted.unchanged {env : Env} {r : Nat} {st : MState} (h : searchScopes env.funcs r ≠ 0 → r ∈ st.multi) :
    Inserted env r st st where
  mem _ := (or_iff_left_of_imp fun ⟨e, hf⟩ => e ▸ h hf).symm
  singles := rfl
  visitedScopes := rfl
  patch := rfl
  inv := id

theorem markInsert_spec {env : Env} {st st' : MState} {line : Nat} (h : markInsert env st line = .ok st') :
    ∃ r, skipComments env (env.comments.size + 1) line = .ok r ∧ Inserted env r st st' := by
  revert h
  fun_cases markInsert env st line with
  | case1 => nofun
  | case2 r hr h0 =>  -- `r` lies in no function
    rintro ⟨⟩
    exact ⟨r, hr, .unchanged fun hf => absurd (eq_of_beq h0) hf⟩
  | case3 r hr h0 hm =>  -- `r` is recorded already
    rintro ⟨⟩
    exact ⟨r, hr, .unchanged fun _ => List.contains_iff_mem.mp hm⟩
  | case4 r hr h0 hm =>  -- `r` is appended
    rintro ⟨⟩
    have hf : searchScopes env.funcs r ≠ 0 := fun e => h0 (by rw [e]; rfl)
    replace hm : r ∉ st.multi := fun h => hm (List.contains_iff_mem.mpr h)
    refine ⟨r, hr, {
      mem := fun x => by rw [List.mem_append, List.mem_singleton, and_iff_left hf]
      singles := rfl, visitedScopes := rfl, patch := rfl
      inv := fun hinv => { nodup := ?_, notComment := ?_, inFunc := ?_, count := ?_ } }⟩
    · exact List.nodup_append.mpr ⟨hinv.nodup, List.pairwise_singleton _ r,
        fun a ha b hb => List.mem_singleton.mp hb ▸ fun e => hm (e ▸ ha)⟩
    · exact fun x hx => (List.mem_append.mp hx).elim (hinv.notComment x)
        fun h1 => List.mem_singleton.mp h1 ▸ (skipComments_spec env _ _ _ hr).1
    · exact fun x hx => (List.mem_append.mp hx).elim (hinv.inFunc x) fun h1 => List.mem_singleton.mp h1 ▸ hf
    · simp only [hinv.count, List.length_append, List.length_singleton]; omega

theorem markInsert_self {env : Env} {st st' : MState} {line r : Nat} (h : markInsert env st line = .ok st')
    (hr : skipComments env (env.comments.size + 1) line = .ok r) (hf : searchScopes env.funcs r ≠ 0) :
    r ∈ st'.multi := by
  obtain ⟨r', hr', hi⟩ := markInsert_spec h
  cases hr'.symm.trans hr
  exact (hi.mem _).mpr (Or.inr ⟨rfl, hf⟩)

theorem markInsert_mem (env : Env) (st st' : MState) (line : Nat)
    (hc : env.isComment line = .ok false) (hf : searchScopes env.funcs line ≠ 0)
    (h : markInsert env st line = .ok st') : line ∈ st'.multi :=
  markInsert_self h (skipComments_id env _ line hc) hf

theorem markInsert_congr {env env' : Env} (hc : env'.comments = env.comments) (hf : env'.funcs = env.funcs)
    (st : MState) (l : Nat) : markInsert env' st l = markInsert env st l := by
  simp only [markInsert, hc, hf, skipComments_congr hc]

/-- where an event on line `l` may put a tracking position: the first non-comment line at or after `l`; at func
    granularity, the first after the opening brace of the function scope that strictly contains `l` -/
def C09.Target (env : Env) (l r : Nat) : Prop :=
  (env.gran ≠ .func ∧ skipComments env (env.comments.size + 1) l = .ok r) ∨
  (env.gran = .func ∧ ∃ s e, env.funcs[searchScopes env.funcs l]? = some (s, e) ∧ searchScopes env.funcs l ≠ 0 ∧
      skipComments env (env.comments.size + 1) (s + 1) = .ok r)

open C09 (Target)

theorem target_iff {env : Env} (hg : env.gran ≠ .func) {l x : Nat} :
    Target env l x ↔ skipComments env (env.comments.size + 1) l = .ok x := by
  simp only [Target, hg, ne_eq, not_false_eq_true, true_and, false_and, or_false]

theorem target_congr {e1 e2 : Env} (h : e1.Same e2) (h1 : e1.gran ≠ .func) (h2 : e2.gran ≠ .func) {l x : Nat}
    (ht : Target e1 l x) : Target e2 l x := by
  rw [target_iff h2, h.skip]; exact (target_iff h1).mp ht

theorem forceMark_line {env : Env} (hg : env.gran = .line) (st : MState) (l : Nat) :
    forceMark env st l = markInsert env st l := by
  simp only [forceMark, hg]

theorem forceMark_func_ok {env : Env} {st st' : MState} {l : Nat} (hg : env.gran = .func)
    (h : forceMark env st l = .ok st') :
    (searchScopes env.funcs l = 0 ∧ st' = st) ∨
    ∃ s e, searchScopes env.funcs l ≠ 0 ∧ env.funcs[searchScopes env.funcs l]? = some (s, e) ∧
      markInsert env st (s + 1) = .ok st' := by
  simp only [forceMark, hg] at h
  split at h
  · next h0 => cases h; exact Or.inl ⟨eq_of_beq h0, rfl⟩
  · next h0 =>
    split at h
    · next s e hs => exact Or.inr ⟨s, e, by simpa using h0, hs, h⟩
    · cases h

theorem forceMark_scope_ok {env : Env} {st st' : MState} {l : Nat} (hg : env.gran = .scope)
    (h : forceMark env st l = .ok st') :
    (st' = st ∧ ∀ t, searchTrees env.trees l = some t → t.search l ∈ st.visitedScopes) ∨
    ∃ t, searchTrees env.trees l = some t ∧ t.search l ∉ st.visitedScopes ∧
      markInsert env { st with visitedScopes := t.search l :: st.visitedScopes } l = .ok st' := by
  simp only [forceMark, hg] at h
  split at h
  · next hn => cases h; exact Or.inl ⟨rfl, fun t ht => by rw [hn] at ht; cases ht⟩
  · next t ht =>
    split at h
    · next hv =>
      cases h; refine Or.inl ⟨rfl, fun t' ht' => ?_⟩
      cases ht.symm.trans ht'; exact List.contains_iff_mem.mp hv
    · next hv => exact Or.inr ⟨t, ht, fun hm => hv (List.contains_iff_mem.mpr hm), h⟩

theorem forceMark_scope_spec {env : Env} {st st' : MState} {l : Nat} (hg : env.gran = .scope)
    (h : forceMark env st l = .ok st') :
    st.visitedScopes ⊆ st'.visitedScopes ∧
    (∀ t, searchTrees env.trees l = some t → t.search l ∈ st'.visitedScopes) ∧
    ∀ k ∈ st'.visitedScopes, k ∈ st.visitedScopes ∨ ∃ t r, searchTrees env.trees l = some t ∧ t.search l = k ∧
      skipComments env (env.comments.size + 1) l = .ok r ∧ (searchScopes env.funcs r ≠ 0 → r ∈ st'.multi) := by
  rcases forceMark_scope_ok hg h with ⟨rfl, hv⟩ | ⟨t, ht, _, hm⟩
  · exact ⟨fun _ h => h, hv, fun k hk => Or.inl hk⟩
  · obtain ⟨r, hr, hi⟩ := markInsert_spec hm
    rw [hi.visitedScopes]
    refine ⟨List.subset_cons_self _ _, fun t' ht' => ?_, fun k hk => ?_⟩
    · cases ht.symm.trans ht'; exact List.mem_cons_self
    · exact (List.mem_cons.mp hk).symm.imp_right fun e =>
        ⟨t, r, ht, e.symm, hr, markInsert_self hm hr⟩

/-- `forceMark` at patch granularity, unfolded: `st1` is the state after the patch scope `ps` of the key was looked up
    (`st`) or registered (`st` with one more entry); then `canInsert` decides between nothing and `markInsert` +
    `markInserted`. `forceMark_patch_spec` below reads the same through `lookup`. -/
theorem forceMark_patch_ok {env : Env} {st st' : MState} {l : Nat} (hg : env.gran = .patch)
    (h : forceMark env st l = .ok st') :
    (searchTrees env.trees l = none ∧ st' = st) ∨
    ∃ t ps st1, searchTrees env.trees l = some t ∧
      ((st.patch.lookup (t.search l) = some ps ∧ st1 = st) ∨
       (st.patch.lookup (t.search l) = none ∧ newPatchScope env t.s t.e = .ok ps ∧
          st1 = { st with patch := (t.search l, ps) :: st.patch })) ∧
      ((ps.canInsert l = .ok false ∧ st' = st1) ∨
       ∃ st2 ps2, ps.canInsert l = .ok true ∧ markInsert env st1 l = .ok st2 ∧ ps.markInserted l = .ok ps2 ∧
          st' = { st2 with patch := (t.search l, ps2) :: st2.patch.filter (fun kv => kv.1 != t.search l) }) := by
  simp only [forceMark, hg] at h
  split at h
  · next hn => cases h; exact Or.inl ⟨hn, rfl⟩
  · next t ht =>
    split at h
    · cases h
    · next ps hps =>
      refine Or.inr ⟨t, ps, if (st.patch.lookup (t.search l)).isNone then
        { st with patch := (t.search l, ps) :: st.patch } else st, ht, ?_, ?_⟩
      · cases hlk : st.patch.lookup (t.search l) with
        | some p => rw [hlk] at hps; cases hps; exact Or.inl ⟨rfl, rfl⟩
        | none => rw [hlk] at hps; exact Or.inr ⟨rfl, hps, rfl⟩
      · split at h
        · cases h
        · next hc => cases h; exact Or.inl ⟨hc, rfl⟩
        · next hc =>
          split at h
          · next st2 ps2 hm hp => cases h; exact Or.inr ⟨st2, ps2, hc, hm, hp, rfl⟩
          · cases h
          · cases h

theorem lookup_cons_if {α β : Type} [BEq α] (k key : α) (v : β) (l : List (α × β)) :
    ((key, v) :: l).lookup k = if k == key then some v else l.lookup k := by
  rw [List.lookup_cons]; cases k == key <;> rfl

theorem lookup_cons_filter {α β : Type} [BEq α] [LawfulBEq α] (key k : α) (v : β) (l : List (α × β)) :
    ((key, v) :: l.filter (fun kv => kv.1 != key)).lookup k = if k == key then some v else l.lookup k := by
  rw [lookup_cons_if]
  split
  · rfl
  · next hk =>
    induction l with
    | nil => rfl
    | cons a r ih =>
      obtain ⟨a1, a2⟩ := a
      rw [List.filter_cons, lookup_cons_if, ← ih]
      split
      · rw [lookup_cons_if]
      · next ha =>
        have : a1 = key := by simpa using ha
        rw [if_neg (this ▸ hk)]

/-- `forceMark_patch_ok` read through the lookups: what one patch-granularity `forceMark` does to the patch scope of
    its key (registered if new, painted if the line may insert) and to the positions -/
theorem forceMark_patch_spec {env : Env} {st st' : MState} {l : Nat} (hg : env.gran = .patch)
    (h : forceMark env st l = .ok st') :
    (searchTrees env.trees l = none ∧ st' = st) ∨
    ∃ t ps ps', searchTrees env.trees l = some t ∧
      (st.patch.lookup (t.search l) = some ps ∨
        (st.patch.lookup (t.search l) = none ∧ newPatchScope env t.s t.e = .ok ps)) ∧
      (∀ k, st'.patch.lookup k = if k == t.search l then some ps' else st.patch.lookup k) ∧
      ((ps.canInsert l = .ok false ∧ ps' = ps) ∨
       (ps.canInsert l = .ok true ∧ ps.markInserted l = .ok ps' ∧
         ∃ r, skipComments env (env.comments.size + 1) l = .ok r ∧
           ∀ x, x ∈ st'.multi ↔ x ∈ st.multi ∨ (x = r ∧ searchScopes env.funcs r ≠ 0))) := by
  rcases forceMark_patch_ok hg h with h0 | ⟨t, ps, st1, ht, h1, h2⟩
  · exact Or.inl h0
  have hps := h1.imp And.left fun h => And.intro h.1 h.2.1
  have hm1 : st1.multi = st.multi := by rcases h1 with ⟨_, rfl⟩ | ⟨_, _, rfl⟩ <;> rfl
  have hlk1 : ∀ k, st1.patch.lookup k = if k == t.search l then some ps else st.patch.lookup k := by
    intro k
    rcases h1 with ⟨hl, rfl⟩ | ⟨_, _, rfl⟩
    · split
      · next e => rw [eq_of_beq e, hl]
      · rfl
    · exact lookup_cons_if ..
  rcases h2 with ⟨hc, rfl⟩ | ⟨st2, ps2, hc, hm, hmd, rfl⟩
  · exact Or.inr ⟨t, ps, ps, ht, hps, hlk1, Or.inl ⟨hc, rfl⟩⟩
  · obtain ⟨r, hr, ins⟩ := markInsert_spec hm
    refine Or.inr ⟨t, ps, ps2, ht, hps, fun k => ?_, Or.inr ⟨hc, hmd, r, hr, hm1 ▸ ins.mem⟩⟩
    show List.lookup k ((t.search l, ps2) :: st2.patch.filter _) = _
    rw [lookup_cons_filter, ins.patch, hlk1]
    split <;> rfl

/-- what one `forceMark` on line `l` does to what the results read, at every granularity -/
structure Forced (env : Env) (l : Nat) (st st' : MState) : Prop where
  inv : Inv env st → Inv env st'
  mono : st.multi ⊆ st'.multi
  singles : st'.singles = st.singles
  new : ∀ x ∈ st'.multi, x ∈ st.multi ∨ (Target env l x ∧ searchScopes env.funcs x ≠ 0)

/-- nothing the results read has moved -/
theorem Forced.of_core_eq {env : Env} {l : Nat} {st st' : MState} (e : st'.core = st.core) : Forced env l st st' := by
  obtain ⟨hm, hs, _⟩ := MState.core_eq e
  exact { inv := fun hi => hi.congr e, mono := fun _ h => hm ▸ h, singles := hs, new := fun x hx => .inl (hm ▸ hx) }

/-- `markInsert` ran on a line `l'` whose insert position is a target of `l`, between two states that differ from `st`
    and `st'` in the bookkeeping only -/
theorem Forced.of_markInsert {env : Env} {l l' : Nat} {st st' st1 st2 : MState} (h : markInsert env st1 l' = .ok st2)
    (ht : ∀ r, skipComments env (env.comments.size + 1) l' = .ok r → Target env l r)
    (e1 : st1.core = st.core) (e2 : st'.core = st2.core) : Forced env l st st' := by
  obtain ⟨r, hr, ins⟩ := markInsert_spec h
  obtain ⟨hm1, hs1, _⟩ := MState.core_eq e1
  obtain ⟨hm2, hs2, _⟩ := MState.core_eq e2
  refine { inv := fun hi => (ins.inv (hi.congr e1)).congr e2, mono := fun x hx => ?_,
           singles := by rw [hs2, ins.singles, hs1], new := fun x hx => ?_ }
  · rw [hm2]; exact (ins.mem x).mpr (Or.inl (hm1 ▸ hx))
  · rw [hm2] at hx
    rcases (ins.mem x).mp hx with h1 | ⟨rfl, hf⟩
    · exact Or.inl (hm1 ▸ h1)
    · exact Or.inr ⟨ht _ hr, hf⟩

theorem forceMark_spec {env : Env} {st st' : MState} {l : Nat} (h : forceMark env st l = .ok st') :
    Forced env l st st' := by
  cases hg : env.gran with
  | line =>
    rw [forceMark_line hg] at h
    exact .of_markInsert h (fun r hr => Or.inl ⟨by rw [hg]; decide, hr⟩) rfl rfl
  | func =>
    rcases forceMark_func_ok hg h with ⟨_, rfl⟩ | ⟨s, e, h0, hs, hm⟩
    · exact .of_core_eq rfl
    · exact .of_markInsert hm (fun r hr => Or.inr ⟨hg, s, e, hs, h0, hr⟩) rfl rfl
  | scope =>
    rcases forceMark_scope_ok hg h with ⟨rfl, _⟩ | ⟨t, _, _, hm⟩
    · exact .of_core_eq rfl
    · exact .of_markInsert hm (fun r hr => Or.inl ⟨by rw [hg]; decide, hr⟩) rfl rfl
  | patch =>
    rcases forceMark_patch_ok hg h with ⟨_, rfl⟩ | ⟨t, ps, st1, _, h1, h2⟩
    · exact .of_core_eq rfl
    · have e1 : st1.core = st.core := by rcases h1 with ⟨_, rfl⟩ | ⟨_, _, rfl⟩ <;> rfl
      rcases h2 with ⟨_, rfl⟩ | ⟨st2, ps2, _, hm, _, rfl⟩
      · exact .of_core_eq e1
      · exact .of_markInsert hm (fun r hr => Or.inl ⟨by rw [hg]; decide, hr⟩) e1 rfl

/-- at line and func granularity nothing gates the insertion -/
theorem forceMark_mem {env : Env} {st st' : MState} {l : Nat} (hg : env.gran = .line ∨ env.gran = .func)
    (h : forceMark env st l = .ok st') {x : Nat} (ht : Target env l x) (hf : searchScopes env.funcs x ≠ 0) :
    x ∈ st'.multi := by
  rcases hg with hg | hg
  · rw [forceMark_line hg] at h
    exact markInsert_self h ((target_iff (by rw [hg]; decide)).mp ht) hf
  · rcases ht with ⟨hg', _⟩ | ⟨_, s, e, hs, h0, hsk⟩
    · exact absurd hg hg'
    · rcases forceMark_func_ok hg h with ⟨h0', _⟩ | ⟨s', e', _, hs', hm'⟩
      · exact absurd h0' h0
      · cases hs.symm.trans hs'
        exact markInsert_self hm' hsk hf

/-- the event reaches `forceMarkInsert` with line `l` -/
def Fires (env : Env) (ev : Ev) (l : Nat) : Prop :=
  (ev = .check l ∧ env.isChanged l = .ok true) ∨ ev = .force l

/-- some event of `evs` reaches `forceMarkInsert` with line `l`: a changed checked line or a forced line -/
def Active (env : Env) (evs : List Ev) (l : Nat) : Prop :=
  (Ev.check l ∈ evs ∧ env.isChanged l = .ok true) ∨ Ev.force l ∈ evs

theorem active_iff {env : Env} {evs : List Ev} {l : Nat} : Active env evs l ↔ ∃ ev ∈ evs, Fires env ev l := by
  constructor
  · rintro (⟨hm, hc⟩ | hm)
    · exact ⟨_, hm, Or.inl ⟨rfl, hc⟩⟩
    · exact ⟨_, hm, Or.inr rfl⟩
  · rintro ⟨ev, hm, ⟨rfl, hc⟩ | rfl⟩
    · exact Or.inl ⟨hm, hc⟩
    · exact Or.inr hm

theorem stepEv_fires {env : Env} {ev : Ev} {l : Nat} (hf : Fires env ev l) (st : MState) :
    stepEv env st ev = forceMark env st l := by
  rcases hf with ⟨rfl, hc⟩ | rfl
  · simp only [stepEv, hc]
  · rfl

/-- Stated for two environments with the same changed lines; one run is the case `e2 = e1`, `s2 = s1`. -/
theorem stepEv_cases {e1 e2 : Env} (hch : e2.changed = e1.changed) {s1 s1' s2 s2' : MState} {ev : Ev}
    (h1 : stepEv e1 s1 ev = .ok s1') (h2 : stepEv e2 s2 ev = .ok s2') :
    (∃ l, Fires e1 ev l ∧ forceMark e1 s1 l = .ok s1' ∧ forceMark e2 s2 l = .ok s2') ∨
    (s1' = s1 ∧ s2' = s2 ∧ ∀ l, ¬ Fires e1 ev l) ∨
    ∃ l c, ev = .single l c ∧ e1.isChanged l = .ok true ∧
      s1' = { s1 with count := s1.count + 1, singles := s1.singles ++ [(l, c)] } ∧
      s2' = { s2 with count := s2.count + 1, singles := s2.singles ++ [(l, c)] } := by
  cases ev with
  | force l => exact Or.inl ⟨l, Or.inr rfl, h1, h2⟩
  | check l =>
    simp only [stepEv, isChanged_congr hch] at h1 h2
    split at h1
    · cases h1
    · next hc =>
      rw [hc] at h2; cases h1; cases h2
      refine Or.inr (Or.inl ⟨rfl, rfl, ?_⟩)
      rintro l' (⟨e, hc'⟩ | e) <;> cases e
      rw [hc] at hc'; cases hc'
    · next hc => rw [hc] at h2; exact Or.inl ⟨l, Or.inl ⟨rfl, hc⟩, h1, h2⟩
  | single l c =>
    simp only [stepEv, isChanged_congr hch] at h1 h2
    split at h1
    · cases h1
    · next hc =>
      rw [hc] at h2; cases h1; cases h2
      exact Or.inr (Or.inl ⟨rfl, rfl, by rintro l' (⟨e, _⟩ | e) <;> cases e⟩)
    · next hc => rw [hc] at h2; cases h1; cases h2; exact Or.inr (Or.inr ⟨l, c, rfl, hc, rfl, rfl⟩)

/-- The induction over the event list, stated once: an invariant `P`, a preorder `Le` along the run, and a
    postcondition `Q l` of `forceMark` on each active line `l` that `Le` preserves. -/
theorem run_trace {env : Env} (P : MState → Prop) (Le : MState → MState → Prop) (Q : Nat → MState → Prop)
    (refl : ∀ s, Le s s) (trans : ∀ {a b c}, Le a b → Le b c → Le a c) {evs : List Ev}
    (force : ∀ l, Active env evs l → ∀ s s', P s → forceMark env s l = .ok s' → P s' ∧ Le s s' ∧ Q l s')
    (single : ∀ l c, env.isChanged l = .ok true → ∀ s, P s →
      P { s with count := s.count + 1, singles := s.singles ++ [(l, c)] } ∧
      Le s { s with count := s.count + 1, singles := s.singles ++ [(l, c)] })
    (mono : ∀ l s s', Q l s → Le s s' → Q l s')
    {st st' : MState} (h0 : P st) (h : evs.foldlM (stepEv env) st = .ok st') :
    P st' ∧ Le st st' ∧ ∀ l, Active env evs l → Q l st' := by
  -- one event: where it fires it is a `forceMark` (`force`); otherwise nothing moves, or a single is recorded (`single`)
  have step : ∀ ev ∈ evs, ∀ s s', P s → stepEv env s ev = .ok s' →
      P s' ∧ Le s s' ∧ ∀ l, Fires env ev l → Q l s' := by
    intro ev hev s s' hp hs
    have hf := fun l (hl : Fires env ev l) => force l (active_iff.mpr ⟨ev, hev, hl⟩) s s' hp (stepEv_fires hl s ▸ hs)
    suffices h : P s' ∧ Le s s' from ⟨h.1, h.2, fun l hl => (hf l hl).2.2⟩
    rcases stepEv_cases rfl hs hs with ⟨l, hl, _⟩ | ⟨rfl, _⟩ | ⟨l, c, _, hc, rfl, _⟩
    · exact ⟨(hf l hl).1, (hf l hl).2.1⟩
    · exact ⟨hp, refl _⟩
    · exact single l c hc s hp
  obtain ⟨hP, hLe, hQ⟩ := foldlM_trace P Le (fun ev s => ∀ l, Fires env ev l → Q l s) refl trans step
    (fun _ s s' hq hle l hl => mono l s s' (hq l hl) hle) h0 h
  refine ⟨hP, hLe, fun l hl => ?_⟩
  obtain ⟨ev, hev, hf⟩ := active_iff.mp hl
  exact hQ ev hev l hf

theorem run_inv {env : Env} (P : MState → Prop) {evs : List Ev}
    (force : ∀ l, Active env evs l → ∀ s s', P s → forceMark env s l = .ok s' → P s')
    (single : ∀ l c, env.isChanged l = .ok true → ∀ s, P s →
      P { s with count := s.count + 1, singles := s.singles ++ [(l, c)] })
    {st st' : MState} (h0 : P st) (h : evs.foldlM (stepEv env) st = .ok st') : P st' :=
  (run_trace P (fun _ _ => True) (fun _ _ => True) (fun _ => trivial) (fun _ _ => trivial)
    (fun l hl s s' hp hs => ⟨force l hl s s' hp hs, trivial, trivial⟩) (fun l c hc s hp => ⟨single l c hc s hp, trivial⟩)
    (fun _ _ _ _ _ => trivial) h0 h).1

theorem run_rel {e1 e2 : Env} (hch : e2.changed = e1.changed) (R : MState → MState → Prop) {evs : List Ev}
    (force : ∀ l, Active e1 evs l → ∀ s1 s1' s2 s2', R s1 s2 →
      forceMark e1 s1 l = .ok s1' → forceMark e2 s2 l = .ok s2' → R s1' s2')
    (single : ∀ p s1 s2, R s1 s2 → R { s1 with count := s1.count + 1, singles := s1.singles ++ [p] }
      { s2 with count := s2.count + 1, singles := s2.singles ++ [p] })
    {s1 s1' s2 s2' : MState} (h0 : R s1 s2)
    (h1 : evs.foldlM (stepEv e1) s1 = .ok s1') (h2 : evs.foldlM (stepEv e2) s2 = .ok s2') : R s1' s2' := by
  refine foldlM_rel R (fun ev hev a a' b b' hr ha hb => ?_) h0 h1 h2
  rcases stepEv_cases hch ha hb with ⟨l, hf, ha, hb⟩ | ⟨rfl, rfl, _⟩ | ⟨l, c, _, _, rfl, rfl⟩
  · exact force l (active_iff.mpr ⟨ev, hev, hf⟩) _ _ _ _ hr ha hb
  · exact hr
  · exact single _ _ _ hr

theorem run_spec {env : Env} {evs : List Ev} {st st' : MState} (hinv : Inv env st)
    (h : evs.foldlM (stepEv env) st = .ok st') :
    Inv env st' ∧ st.multi ⊆ st'.multi ∧
    ∀ l, Active env evs l → env.gran = .line ∨ env.gran = .func →
      ∀ r, Target env l r → searchScopes env.funcs r ≠ 0 → r ∈ st'.multi :=
  run_trace (P := Inv env) (Le := fun s s' => s.multi ⊆ s'.multi)
    (Q := fun l s => env.gran = .line ∨ env.gran = .func →
      ∀ r, Target env l r → searchScopes env.funcs r ≠ 0 → r ∈ s.multi)
    (refl := fun _ => List.Subset.refl _) (trans := List.Subset.trans)
    (force := fun _ _ _ _ hi hs => ⟨(forceMark_spec hs).inv hi, (forceMark_spec hs).mono,
      fun hg _ => forceMark_mem hg hs⟩)
    (single := fun _ _ _ _ hi => ⟨⟨hi.nodup, hi.notComment, hi.inFunc,
        by simp only [hi.count, List.length_append, List.length_singleton]; omega⟩, List.Subset.refl _⟩)
    (mono := fun _ _ _ hq hle hg r ht hf => hle (hq hg r ht hf)) hinv h

theorem runEvents_inv {env : Env} {evs : List Ev} {st : MState} (h : runEvents env evs = .ok st) :
    Inv env st := (run_spec (Inv.init env) h).1

theorem Inv.count_le {e1 e2 : Env} {s1 s2 : MState} (i1 : Inv e1 s1) (i2 : Inv e2 s2)
    (hm : s1.multi.length ≤ s2.multi.length) (hs : s1.singles = s2.singles) : s1.count ≤ s2.count := by
  rw [i1.count, i2.count, hs]; omega

theorem forceMark_congr {e1 e2 : Env} (he : e1.Same e2) (hg : e2.gran = e1.gran) (hlf : e1.gran = .line ∨ e1.gran = .func)
    (st : MState) (l : Nat) : forceMark e2 st l = forceMark e1 st l := by
  rcases hlf with h | h <;>
    simp only [forceMark, hg, h, he.funcs, markInsert_congr he.comments he.funcs]

theorem run_env_irrel (g : Gran) (hg : g = .line ∨ g = .func) (n1 n2 : Nat) (ch cm : Array Bool)
    (fs : List (Nat × Nat)) (t1 t2 : List TScope) (evs : List Ev) :
    runEvents ⟨g, n1, ch, cm, fs, t1⟩ evs = runEvents ⟨g, n2, ch, cm, fs, t2⟩ evs := by
  have : stepEv ⟨g, n1, ch, cm, fs, t1⟩ = stepEv ⟨g, n2, ch, cm, fs, t2⟩ := by
    funext st ev
    have hf := forceMark_congr (e1 := ⟨g, n2, ch, cm, fs, t2⟩) (e2 := ⟨g, n1, ch, cm, fs, t1⟩) ⟨rfl, rfl, rfl⟩ rfl hg st
    cases ev <;> simp only [stepEv, Env.isChanged, hf]
  rw [runEvents, this]; rfl

theorem mkEnv_eq (f : File) (g : Gran) (ranges : List (Nat × Nat)) (env : Env) (h : mkEnv f g ranges = .ok env) :
    ∃ fs ch tr, functionScopes f = some fs ∧ initChanged f.lineCodes.size ranges = .ok ch ∧
      env = ⟨g, f.lineCodes.size, ch, commentArray f.lineCodes, fs, tr⟩ ∧
      (g = .patch ∨ g = .scope → trackScopes f = some (.ok tr)) := by
  revert h
  fun_cases mkEnv f g ranges with
  | case1 | case2 | case3 => nofun
  | case4 fs hfs treesE tr htr ch hch =>
    rintro ⟨⟩
    refine ⟨fs, ch, tr, hfs, hch, rfl, fun hg => ?_⟩
    dsimp only [treesE] at htr
    rw [show (g == .patch || g == .scope) = true by rcases hg with rfl | rfl <;> rfl, if_pos rfl] at htr
    split at htr
    · cases htr
    · cases htr
    · next ts hts => cases htr; exact hts

theorem mkEnv_file (f : File) (g : Gran) (ranges : List (Nat × Nat)) (env : Env)
    (h : mkEnv f g ranges = .ok env) :
    env.comments = commentArray f.lineCodes ∧ functionScopes f = some env.funcs := by
  obtain ⟨fs, _, _, hfs, _, rfl, _⟩ := mkEnv_eq f g ranges env h
  exact ⟨rfl, hfs⟩

theorem mkEnv_same {f : File} {g g' : Gran} {ranges : List (Nat × Nat)} {e e' : Env}
    (h : mkEnv f g ranges = .ok e) (h' : mkEnv f g' ranges = .ok e') :
    e.Same e' ∧ e.gran = g ∧ e'.gran = g' ∧
      ((g = .patch ∨ g = .scope) → (g' = .patch ∨ g' = .scope) → e'.trees = e.trees) := by
  obtain ⟨fs, ch, tr, hfs, hch, rfl, htr⟩ := mkEnv_eq f g ranges e h
  obtain ⟨fs', ch', tr', hfs', hch', rfl, htr'⟩ := mkEnv_eq f g' ranges e' h'
  cases hfs.symm.trans hfs'
  cases hch.symm.trans hch'
  refine ⟨⟨rfl, rfl, rfl⟩, rfl, rfl, fun hg hg' => ?_⟩
  cases (htr hg).symm.trans (htr' hg')
  rfl

theorem marks_eq (f : File) (g : Gran) (ranges : List (Nat × Nat)) (m : Marks) (h : marks f g ranges = .ok m) :
    ∃ env st, mkEnv f g ranges = .ok env ∧
      runEvents env (fileEvents (fun l => env.changed.getD l false) f) = .ok st ∧
      m = ⟨sortNat st.multi, sortPairs st.singles, st.count⟩ := by
  unfold marks at h
  split at h
  · cases h
  · next env henv =>
    dsimp only at h
    split at h
    · cases h
    · next st hst => cases h; exact ⟨env, st, henv, hst, rfl⟩

theorem mem_sortNat_ins (x y : Nat) (l : List Nat) : y ∈ sortNat.ins x l ↔ y = x ∨ y ∈ l := by
  fun_induction sortNat.ins x l with
  | case1 | case2 => simp  -- `x` is put in front
  | case3 _ _ _ h => simp [eq_of_beq h]  -- `x` is the head already: dropped
  | case4 _ _ _ _ ih => simp only [List.mem_cons, ih]; exact or_left_comm  -- `x` goes into the tail

theorem mem_sortNat (x : Nat) (l : List Nat) : x ∈ sortNat l ↔ x ∈ l := by
  induction l with
  | nil => simp [sortNat]
  | cons y ys ih => rw [sortNat, List.foldr_cons, mem_sortNat_ins, ← sortNat, ih, List.mem_cons]

theorem marks_run {f : File} {g : Gran} {ranges : List (Nat × Nat)} {m : Marks} {env : Env}
    (h : marks f g ranges = .ok m) (henv : mkEnv f g ranges = .ok env) :
    env.gran = g ∧ ∃ st, runEvents env (fileEvents (fun l => env.changed.getD l false) f) = .ok st ∧
      ∀ x, x ∈ m.multi ↔ x ∈ st.multi := by
  obtain ⟨env', st, henv', hst, rfl⟩ := marks_eq f g ranges m h
  cases henv.symm.trans henv'
  obtain ⟨_, _, _, _, _, rfl, _⟩ := mkEnv_eq f g ranges env henv
  exact ⟨rfl, st, hst, fun x => mem_sortNat x _⟩

end GoatSpec
