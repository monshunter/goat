import GoatSpec.Proofs.Walk
/-! Nesting of statements is transitive; hence the events the control pass emits for a nested statement are events of
    the pass over the whole (by `ctl*_heads` both are header marks of statements of `sub*`). -/
namespace GoatSpec

theorem subS_self (s : Stmt) : s ∈ subS s := by
  cases s <;> exact List.mem_cons_self ..

/-- `X` is closed under nesting: with a statement it holds every statement nested in it -/
def Nest (X : List Stmt) : Prop := ∀ t ∈ X, subS t ⊆ X

theorem Nest.append {X Y : List Stmt} (hX : Nest X) (hY : Nest Y) : Nest (X ++ Y) :=
  List.forall_mem_append.2 ⟨fun t h => List.subset_append_of_subset_left _ (hX t h),
    fun t h => List.subset_append_of_subset_right _ (hY t h)⟩

theorem Nest.cons {s : Stmt} {R : List Stmt} (hs : subS s = s :: R) (h : Nest R) : Nest (subS s) := by
  rw [hs]
  intro t ht
  rcases List.mem_cons.1 ht with rfl | ht
  · exact hs ▸ List.Subset.refl _
  · exact List.subset_cons_of_subset _ (h t ht)

mutual
theorem subE_trans (e : Expr) : Nest (subE e) := by
  cases e with
  | funcLit pl el lb rb first body => exact subL_trans body
  | call x y | composite x y | keyValue x y => exact (subEs_trans x).append (subEs_trans y)
  | unary x | structType x | other x => exact subEs_trans x
theorem subEs_trans (es : List Expr) : Nest (subEs es) := by
  cases es with
  | nil => exact List.forall_mem_nil _
  | cons e r => exact (subE_trans e).append (subEs_trans r)
theorem subS_trans (s : Stmt) : Nest (subS s) := by
  -- `.cons rfl`: `subS s = s :: R` by definition, which says what `R` is; then `R` part by part
  cases s with
  | simple => exact .cons rfl (((subEs_trans _).append (subEs_trans _)).append (subEs_trans _))
  | block | selectS => exact .cons rfl (subL_trans _)
  | labeled => exact .cons rfl (subS_trans _)
  | ifS | forS => exact .cons rfl ((((subL_trans _).append (subEs_trans _)).append (subL_trans _)).append (subL_trans _))
  | rangeS | caseC => exact .cons rfl ((subEs_trans _).append (subL_trans _))
  | switchS => exact .cons rfl (((subL_trans _).append (subEs_trans _)).append (subL_trans _))
  | typeSwitchS => exact .cons rfl (((subL_trans _).append (subL_trans _)).append (subL_trans _))
  | commC => exact .cons rfl ((subL_trans _).append (subL_trans _))
theorem subL_trans (ss : List Stmt) : Nest (subL ss) := by
  cases ss with
  | nil => exact List.forall_mem_nil _
  | cons s r => exact (subS_trans s).append (subL_trans r)
end

theorem ctl_of_nest (ch : Nat → Bool) {X : List Stmt} (h : Nest X) :
    ∀ t ∈ X, ∀ ev ∈ ctlS ch t, ev ∈ X.flatMap (WalkSpec.ctlHead ch) := by
  intro t ht ev hev
  rw [ctlS_heads] at hev
  obtain ⟨u, hu, hev⟩ := List.mem_flatMap.1 hev
  exact List.mem_flatMap.2 ⟨u, h t ht hu, hev⟩

theorem ctl_subE (ch : Nat → Bool) (e : Expr) : ∀ t ∈ subE e, ∀ ev ∈ ctlS ch t, ev ∈ ctlE ch e := by
  rw [ctlE_heads]; exact ctl_of_nest ch (subE_trans e)
theorem ctl_subEs (ch : Nat → Bool) (es : List Expr) : ∀ t ∈ subEs es, ∀ ev ∈ ctlS ch t, ev ∈ ctlEs ch es := by
  rw [ctlEs_heads]; exact ctl_of_nest ch (subEs_trans es)
theorem ctl_subS (ch : Nat → Bool) (s : Stmt) : ∀ t ∈ subS s, ∀ ev ∈ ctlS ch t, ev ∈ ctlS ch s := by
  rw [ctlS_heads ch s]; exact ctl_of_nest ch (subS_trans s)
theorem ctl_subL (ch : Nat → Bool) (ss : List Stmt) : ∀ t ∈ subL ss, ∀ ev ∈ ctlS ch t, ev ∈ ctlL ch ss := by
  rw [ctlL_heads]; exact ctl_of_nest ch (subL_trans ss)

end GoatSpec
