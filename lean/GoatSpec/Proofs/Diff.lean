import GoatSpec.Diff
import GoatSpec.Proofs.Sort
/-! The diff stage's two walks, read through the lines their ranges cover: a range list is compared with a flag
  vector (`Cov`). The chunk walk of precision 2/3 covers the lines of the Add chunks, the blame walk of precision 1
  the flagged lines, INIT every line. After the walks: commit ancestry for the blame rule (`Reach`, `reachFrom_sound`),
  the compaction of the change list (`filterGo_perm`) and its sort by path. -/
namespace GoatSpec.Diff

/-- a chunk with its lines (every line newline-terminated) -/
abbrev LChunk (α : Type) := Kind × List α

/-- what `getLineChange` sees of it -/
def num {α : Type} (cs : List (LChunk α)) : List NChunk := cs.map (fun c => (c.1, c.2.length))

def sel {α : Type} (keep : Kind → Bool) (cs : List (LChunk α)) : List α :=
  cs.flatMap (fun c => if keep c.1 then c.2 else [])

/-- the old file -/
def oldOf {α : Type} (cs : List (LChunk α)) : List α := sel (fun k => k != .add) cs
/-- the new file -/
def newOf {α : Type} (cs : List (LChunk α)) : List α := sel (fun k => k != .del) cs
def eqOf {α : Type} (cs : List (LChunk α)) : List α := sel (fun k => k == .eq) cs
def addOf {α : Type} (cs : List (LChunk α)) : List α := sel (fun k => k == .add) cs

section sel
variable {α : Type}

@[simp] theorem sel_nil (keep : Kind → Bool) : sel keep ([] : List (LChunk α)) = [] := rfl
@[simp] theorem sel_cons (keep : Kind → Bool) (k : Kind) (ls : List α) (r : List (LChunk α)) :
    sel keep ((k, ls) :: r) = (if keep k then ls else []) ++ sel keep r := by
  simp [sel]
theorem sel_append (keep : Kind → Bool) (a b : List (LChunk α)) :
    sel keep (a ++ b) = sel keep a ++ sel keep b := by
  simp [sel]
@[simp] theorem num_cons (k : Kind) (ls : List α) (r : List (LChunk α)) :
    num ((k, ls) :: r) = (k, ls.length) :: num r := rfl

theorem sel_sublist {k1 k2 : Kind → Bool} (h : ∀ k, k1 k = true → k2 k = true) (cs : List (LChunk α)) :
    (sel k1 cs).Sublist (sel k2 cs) := by
  induction cs with
  | nil => simp
  | cons c r ih =>
    obtain ⟨k, ls⟩ := c
    simp only [sel_cons]
    cases h1 : k1 k with
    | true => simp only [h k h1]; exact List.Sublist.append_left ih ls
    | false => exact List.sublist_append_of_sublist_right ih

theorem eqOf_sublist_old (cs : List (LChunk α)) : (eqOf cs).Sublist (oldOf cs) :=
  sel_sublist (by intro k; cases k <;> simp) cs
theorem eqOf_sublist_new (cs : List (LChunk α)) : (eqOf cs).Sublist (newOf cs) :=
  sel_sublist (by intro k; cases k <;> simp) cs
theorem addOf_sublist_new (cs : List (LChunk α)) : (addOf cs).Sublist (newOf cs) :=
  sel_sublist (by intro k; cases k <;> simp) cs

theorem newOf_perm (cs : List (LChunk α)) : (newOf cs).Perm (eqOf cs ++ addOf cs) := by
  induction cs with
  | nil => exact .refl _
  | cons c r ih =>
    obtain ⟨k, ls⟩ := c
    simp only [newOf, eqOf, addOf] at ih ⊢
    cases k
    · simpa using ih.append_left ls
    · simpa using (ih.append_left ls).trans (List.perm_append_comm_assoc ..)
    · simpa using ih

theorem newOf_length (cs : List (LChunk α)) : (newOf cs).length = (eqOf cs).length + (addOf cs).length :=
  (newOf_perm cs).length_eq.trans List.length_append

theorem added_le (first last : List α) (mid : List (LChunk α)) :
    let cs := (Kind.eq, first) :: mid ++ [(Kind.eq, last)]
    (addOf cs).length + first.length + last.length ≤ (newOf cs).length := by
  intro cs
  have : (eqOf cs).length = first.length + (eqOf mid).length + last.length := by
    simp [cs, eqOf, sel_append, Nat.add_assoc]
  rw [newOf_length]; omega

end sel

theorem sublist_eq_filter {α : Type} {s l : List α} {p : α → Bool} (hs : s.Sublist l) (hp : ∀ x ∈ s, p x = true)
    (hl : (l.filter p).length ≤ s.length) : s = l.filter p := by
  refine List.Sublist.eq_of_length_le ?_ hl
  have h := hs.filter p
  rwa [List.filter_eq_self.mpr hp] at h

@[simp] theorem getLineChange_walk (cs : List NChunk) : getLineChange true true cs = walk 0 cs := rfl
@[simp] theorem getLineChange_new (cs : List NChunk) : getLineChange false true cs = [(1, totalNewlines cs)] := rfl

theorem covered_cons (r0 : Range) (rs : List Range) (i : Nat) :
    covered (r0 :: rs) i = ((decide (r0.1 ≤ i) && decide (i < r0.1 + r0.2)) || covered rs i) := by
  simp [covered]

theorem rangesWF_cons {lo hi s n : Nat} {r : List Range} :
    rangesWF lo hi ((s, n) :: r) = true ↔ (lo ≤ s ∧ s + n ≤ hi + 1) ∧ rangesWF (s + n) hi r = true := by
  simp only [rangesWF, Bool.and_eq_true, decide_eq_true_eq]

theorem rangesWF_mono {lo lo' hi : Nat} {rs : List Range} (h : rangesWF lo hi rs = true) (hl : lo' ≤ lo) :
    rangesWF lo' hi rs = true := by
  cases rs with
  | nil => rfl
  | cons r rs =>
    have ⟨⟨h1, h2⟩, h3⟩ := rangesWF_cons.mp h
    exact rangesWF_cons.mpr ⟨⟨Nat.le_trans hl h1, h2⟩, h3⟩

/-- the lines whose flag is `keep` (lines beyond the flags are dropped) -/
def pick {α : Type} (keep : Bool) : List α → List Bool → List α
  | l :: ls, b :: bs => if b == keep then l :: pick keep ls bs else pick keep ls bs
  | _, _ => []

/-- `rs` (sorted, disjoint, inside `nl + 1 .. nl + |fl|`) covers line `nl + 1 + k` exactly when flag `k` of `fl`
    is set, and no line up to `nl` -/
structure Cov (nl : Nat) (rs : List Range) (fl : List Bool) : Prop where
  wf : rangesWF (nl + 1) (nl + fl.length) rs = true
  below : ∀ j, j ≤ nl → covered rs j = false
  flag : ∀ k, covered rs (nl + 1 + k) = fl.getD k false

theorem getD_replicate_append (n : Nat) (b : Bool) (fl : List Bool) (k : Nat) :
    (List.replicate n b ++ fl).getD k false = if k < n then b else fl.getD (k - n) false := by
  simp only [List.getD_eq_getElem?_getD, List.getElem?_append, List.length_replicate, List.getElem?_replicate]
  split <;> simp

theorem Cov.nil (nl : Nat) : Cov nl [] [] := ⟨rfl, fun _ _ => rfl, fun _ => rfl⟩

theorem Cov.gap {nl n : Nat} {rs : List Range} {fl : List Bool} (h : Cov (nl + n) rs fl) :
    Cov nl rs (List.replicate n false ++ fl) := by
  refine ⟨?_, fun j hj => h.below j (Nat.le_trans hj (Nat.le_add_right ..)), fun k => ?_⟩
  · rw [List.length_append, List.length_replicate, ← Nat.add_assoc]
    exact rangesWF_mono h.wf (by omega)
  rw [getD_replicate_append]
  split
  · exact h.below _ (by omega)
  · rw [← h.flag]; congr 1; omega

theorem Cov.range {nl n : Nat} {rs : List Range} {fl : List Bool} (h : Cov (nl + n) rs fl) :
    Cov nl ((nl + 1, n) :: rs) (List.replicate n true ++ fl) := by
  have g := h.gap
  refine ⟨?_, fun j hj => ?_, fun k => ?_⟩
  · rw [List.length_append, List.length_replicate, ← Nat.add_assoc]
    exact rangesWF_cons.mpr ⟨⟨Nat.le_refl _, by omega⟩, rangesWF_mono h.wf (by omega)⟩
  · rw [covered_cons, g.below j hj]; simp; omega
  · rw [covered_cons, g.flag, getD_replicate_append, getD_replicate_append]
    split <;> simp <;> omega

section lines
variable {α : Type}

theorem lines_of_flags (rs : List Range) (ls : List α) (fl : List Bool) (i : Nat) (h : ls.length ≤ fl.length)
    (hc : ∀ k, covered rs (i + k) = fl.getD k false) :
    unreportedFrom rs i ls = pick false ls fl ∧ reportedFrom rs i ls = pick true ls fl := by
  induction ls generalizing fl i with
  | nil => exact ⟨rfl, rfl⟩
  | cons l ls ih =>
    cases fl with
    | nil => cases h
    | cons b fl =>
      have hc' k : covered rs (i + 1 + k) = fl.getD k false := by
        rw [Nat.add_assoc, Nat.add_comm 1 k]; exact hc (k + 1)
      have ⟨h1, h2⟩ := ih fl (i + 1) (Nat.le_of_succ_le_succ h) hc'
      have h0 : covered rs i = b := hc 0
      simp only [unreportedFrom, reportedFrom, h0, h1, h2]
      cases b <;> exact ⟨rfl, rfl⟩

theorem Cov.lines {rs : List Range} {fl : List Bool} (h : Cov 0 rs fl) (ls : List α) (hl : ls.length ≤ fl.length) :
    unreported rs ls = pick false ls fl ∧ reported rs ls = pick true ls fl :=
  lines_of_flags rs ls fl 1 hl (by simpa using h.flag)

theorem pick_replicate_append (keep b : Bool) (ls rest : List α) (fl : List Bool) :
    pick keep (ls ++ rest) (List.replicate ls.length b ++ fl) =
      (if b == keep then ls else []) ++ pick keep rest fl := by
  induction ls with
  | nil => simp
  | cons l ls ih => simp only [List.length_cons, List.replicate_succ, List.cons_append, pick, ih]; split <;> rfl

theorem pick_replicate_ne (b : Bool) : ∀ (ls : List α) (n : Nat), pick (!b) ls (List.replicate n b) = []
  | [], _ => rfl
  | _ :: _, 0 => rfl
  | _ :: ls, n + 1 => by simp [List.replicate_succ, pick, pick_replicate_ne b ls n]

theorem rangesWF_whole {n : Nat} : rangesWF 1 n [(1, n)] = true :=
  rangesWF_cons.mpr ⟨⟨Nat.le_refl 1, Nat.le_of_eq (Nat.add_comm 1 n)⟩, rfl⟩

/-- one range over the whole file leaves no line unreported (INIT, a file new to the revision) -/
theorem whole_unreported {n : Nat} {ls : List α} (h : ls.length ≤ n) : unreported [(1, n)] ls = [] := by
  -- written with `0 +` and `++ []`: the shape `Cov.range` has at `nl = 0` over `Cov.nil`
  have c : Cov 0 [(0 + 1, n)] (List.replicate n true ++ []) := (Cov.nil (0 + n)).range
  rw [(c.lines ls (by simpa using h)).1, List.append_nil]
  exact pick_replicate_ne true ls n

theorem pick_false_sublist {β : Type} {f g : β → Bool} (ls : List α) (xs : List β)
    (h : ∀ x ∈ xs, g x = true → f x = true) :
    (pick false ls (xs.map f)).Sublist (pick false ls (xs.map g)) := by
  induction ls generalizing xs with
  | nil => exact .slnil
  | cons l ls ih =>
    cases xs with
    | nil => exact .slnil
    | cons x xs =>
      have ht := ih xs (fun y hy => h y (List.mem_cons_of_mem x hy))
      simp only [List.map_cons, pick]
      cases hg : g x
      · cases f x
        · exact ht.cons_cons l
        · exact ht.cons l
      · rw [h x List.mem_cons_self hg]; exact ht
end lines

/-- the flags of the lines of the new file: set for the lines of Add chunks -/
def addFlags : List NChunk → List Bool
  | [] => []
  | (.eq, n) :: r => List.replicate n false ++ addFlags r
  | (.add, n) :: r => List.replicate n true ++ addFlags r
  | (.del, _) :: r => addFlags r

theorem walk_cov (nl : Nat) (cs : List NChunk) : Cov nl (walk nl cs) (addFlags cs) := by
  fun_induction walk nl cs with
  | case1 nl => exact Cov.nil nl
  | case2 nl n r ih => exact ih.range
  | case3 nl n r ih => exact ih.gap
  | case4 nl _ r ih => exact ih

theorem walk_eq_nil (nl : Nat) (cs : List NChunk) (h : ∀ c ∈ cs, c.1 ≠ Kind.add) : walk nl cs = [] := by
  fun_induction walk nl cs with
  | case1 => rfl
  | case2 => exact absurd rfl (h _ List.mem_cons_self)
  | case3 nl _ r ih | case4 nl _ r ih => exact ih fun c hc => h c (List.mem_cons_of_mem _ hc)

section
variable {α : Type}

theorem pick_addFlags (keep : Bool) (cs : List (LChunk α)) :
    pick keep (newOf cs) (addFlags (num cs)) = sel (fun k => k == if keep then .add else .eq) cs := by
  induction cs with
  | nil => rfl
  | cons c r ih =>
    obtain ⟨k, ls⟩ := c
    simp only [newOf] at ih
    cases k <;> cases keep <;> simp [newOf, addFlags, pick_replicate_append, ih]

theorem addFlags_length (cs : List (LChunk α)) : (addFlags (num cs)).length = (newOf cs).length := by
  induction cs with
  | nil => rfl
  | cons c r ih =>
    obtain ⟨k, ls⟩ := c
    cases k <;> simp [newOf, addFlags, ih]

theorem walk_lines (cs : List (LChunk α)) :
    unreported (walk 0 (num cs)) (newOf cs) = eqOf cs ∧ reported (walk 0 (num cs)) (newOf cs) = addOf cs := by
  have h := (walk_cov 0 (num cs)).lines (newOf cs) (Nat.le_of_eq (addFlags_length cs).symm)
  rwa [pick_addFlags, pick_addFlags] at h

theorem totalNewlines_num (cs : List (LChunk α)) (h : ∀ c ∈ cs, c.1 = Kind.add) :
    totalNewlines (num cs) = (newOf cs).length := by
  -- both sides are the sum of the chunk lengths
  simp only [totalNewlines, num, newOf, sel, List.length_flatMap, List.map_map]
  exact congrArg List.sum (List.map_congr_left fun c hc => by simp [h c hc])
end

def rangeLines (rs : List Range) : Nat := (rs.map (·.2)).sum

theorem rangeLines_walk {α : Type} (cs : List (LChunk α)) (nl : Nat) :
    rangeLines (walk nl (num cs)) = (addOf cs).length := by
  induction cs generalizing nl with
  | nil => rfl
  | cons c r ih =>
    obtain ⟨k, ls⟩ := c
    simp only [rangeLines, addOf] at ih ⊢
    cases k <;> simp [walk, ih]

/-- non-empty ranges, sorted, separated by at least one unreported line, inside `lo .. hi`:
    together with the cover statement this says "exactly the maximal runs" -/
def runsWF : Nat → Nat → List Range → Prop
  | _, _, [] => True
  | lo, hi, (s, n) :: r => lo ≤ s ∧ 1 ≤ n ∧ s + n ≤ hi + 1 ∧ runsWF (s + n + 1) hi r

theorem runsWF_cons {lo hi s n : Nat} {r : List Range} :
    runsWF lo hi ((s, n) :: r) ↔ lo ≤ s ∧ 1 ≤ n ∧ s + n ≤ hi + 1 ∧ runsWF (s + n + 1) hi r := Iff.rfl

theorem runsWF_mono {lo lo' hi : Nat} {rs : List Range} (h : runsWF lo hi rs) (hl : lo' ≤ lo) : runsWF lo' hi rs := by
  cases rs with
  | nil => trivial
  | cons r rs => exact ⟨Nat.le_trans hl h.1, h.2⟩

theorem runsWF_rangesWF {lo hi : Nat} {rs : List Range} (h : runsWF lo hi rs) : rangesWF lo hi rs = true := by
  induction rs generalizing lo with
  | nil => rfl
  | cons r rs ih =>
    have ⟨hlo, _, hhi, hr⟩ := runsWF_cons.mp h
    exact rangesWF_cons.mpr ⟨⟨hlo, hhi⟩, ih (runsWF_mono hr (Nat.le_succ _))⟩

/-- the invariant of the loop: a pending range `(nl + 1, n)` ends at the last line read (the index is `nl + n`)
    and counts as `n` set flags in front of the remaining ones -/
theorem blameGo_spec (fl : List Bool) :
    (∀ i, Cov i (blameGo i none fl) fl ∧ runsWF (i + 1) (i + fl.length) (blameGo i none fl)) ∧
    ∀ nl n, 1 ≤ n →
      Cov nl (blameGo (nl + n) (some (nl + 1, n)) fl) (List.replicate n true ++ fl) ∧
      runsWF (nl + 1) (nl + n + fl.length) (blameGo (nl + n) (some (nl + 1, n)) fl) := by
  induction fl with
  | nil =>
    refine ⟨fun i => ⟨Cov.nil i, trivial⟩, fun nl n hn => ⟨(Cov.nil _).range, ?_⟩⟩
    -- with no flag left the pending range is all there is: `blameGo _ (some c) [] = [c]`; the bound is `nl + n + 0`
    exact runsWF_cons.mpr ⟨Nat.le_refl _, hn, Nat.le_of_eq (Nat.add_right_comm nl 1 n), trivial⟩
  | cons b r ih =>
    obtain ⟨ih0, ih1⟩ := ih
    have hlen (i : Nat) : i + (b :: r).length = i + 1 + r.length := Nat.add_right_comm i r.length 1
    cases b with
    | true =>
      -- a set flag opens a range of one line (`blameGo i none (true :: r)` unfolds to the pending form with `n = 1`) or
      -- lengthens the pending one
      refine ⟨fun i => hlen i ▸ ih1 i 1 (Nat.le_refl 1), fun nl n hn => ?_⟩
      have := ih1 nl (n + 1) (Nat.le_add_left 1 n)
      rw [List.replicate_succ', List.append_assoc] at this
      rw [hlen]
      simp only [blameGo, Nat.add_right_comm nl 1 n, beq_self_eq_true]
      exact this
    | false =>
      -- a clear flag leaves a gap of one line; a pending range is emitted in front of it: `blameGo i cur (false :: r)`
      -- is `blameGo (i + 1) none r`, after `c ::` if `cur = some c`
      have c1 (i : Nat) : Cov i (blameGo (i + 1) none r) (false :: r) := (ih0 (i + 1)).1.gap (n := 1)
      refine ⟨fun i => ⟨c1 i, hlen i ▸ runsWF_mono (ih0 (i + 1)).2 (Nat.le_succ _)⟩, fun nl n hn => ?_⟩
      refine ⟨(c1 (nl + n)).range, runsWF_cons.mpr ⟨Nat.le_refl _, hn, by rw [hlen]; omega, ?_⟩⟩
      rw [hlen, Nat.add_right_comm nl 1 n]
      exact (ih0 (nl + n + 1)).2

theorem blameRanges_spec (fl : List Bool) : Cov 0 (blameRanges fl) fl ∧ runsWF 1 fl.length (blameRanges fl) := by
  simpa [blameRanges] using (blameGo_spec fl).1 0

/-- `Reach t a x`: commit `x` is `a` or an ancestor of `a` (parent links of `t` followed from `a`) -/
inductive Reach (t : Table) : Nat → Nat → Prop
  | refl (a : Nat) : Reach t a a
  | step {a b p : Nat} {c : Commit} : Reach t a b → lookup t b = some c → p ∈ c.parents → Reach t a p

theorem reachFrom_sound (t : Table) (o : Nat) {fuel : Nat} {st seen : List Nat} (h : ∀ x ∈ st ++ seen, Reach t o x) :
    ∀ x ∈ reachFrom t fuel st seen, Reach t o x := by
  fun_induction reachFrom t fuel st seen with
  | case1 st seen => exact fun x hx => h x (List.mem_append_right _ hx)
  | case2 => exact h
  | case3 f a st seen _ ih => exact ih fun x hx => h x (List.mem_cons_of_mem a hx)
  | case4 f a st seen _ c hc ih =>
    refine ih fun x hx => ?_
    rw [List.append_assoc, List.mem_append] at hx
    exact hx.elim (Reach.step (h a (by simp)) hc) fun hx => h x (List.perm_middle.mem_iff.mp hx)
  | case5 f a st seen _ _ ih => exact ih fun x hx => h x (List.perm_middle.mem_iff.mp hx)

theorem ancestors_sound (t : Table) (old : Nat) : ∀ x ∈ ancestors t old, Reach t old x :=
  reachFrom_sound t old (by simp; exact Reach.refl _)

theorem not_new_is_ancestor (t : Table) (old h : Nat) (hk : (lookup t h).isSome = true)
    (hn : isNewAncestry t old h = false) : Reach t old h := by
  simp only [isNewAncestry] at hn
  split at hn
  · next he => rw [eq_of_beq he]; exact Reach.refl _
  · split at hn
    · next hl => simp [hl] at hk
    · exact ancestors_sound t old h (by simpa using hn)

theorem v1Ranges_eq (isNew : Nat → Bool) (blame : List Nat) :
    v1Ranges isNew blame.length blame = some (blameRanges (blame.map isNew)) := by
  simp [v1Ranges]

theorem filterGo_perm {α : Type} (f : Nat) (l : List (Option α)) (hl : l.length ≤ f) :
    (filterGo f l).Perm (l.filterMap id) := by
  fun_induction filterGo f l with
  | case1 l => rw [List.length_eq_zero_iff.mp (Nat.le_zero.mp hl)]; exact .refl _
  | case2 => exact .refl _
  | case3 f a r ih => exact (ih (Nat.le_of_succ_le_succ hl)).cons a
  | case4 f r hr => rw [List.reverse_eq_nil_iff.mp hr]; exact .refl _
  | case5 f r x m hr ih =>
    -- the last element moved to the front: a permutation of `r`, of the same length
    have hp : (x :: m.reverse).Perm r := ((List.reverse_perm m).cons x).trans (hr ▸ List.reverse_perm r)
    exact (ih (by rw [hp.length_eq]; exact Nat.le_of_succ_le_succ hl)).trans (hp.filterMap id)

theorem sortByPath_perm {β : Type} (l : List (String × β)) : (sortByPath l).Perm l :=
  Insertion.sort_perm insertByPath (fun _ => rfl) (fun _ _ _ => rfl) l

theorem sortByPath_sorted {β : Type} (l : List (String × β)) : (sortByPath l).Pairwise (fun a b => a.1 ≤ b.1) :=
  Insertion.sort_pairwise insertByPath (fun _ => rfl) (fun _ _ _ => rfl) (fun _ _ => String.le_total _ _)
    String.le_trans l

end GoatSpec.Diff
