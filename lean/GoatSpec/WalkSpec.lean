import GoatSpec.GoAst
import GoatSpec.WalkIR
import GoatSpec.Mark
/-! # GoatSpec.WalkSpec — what the translated walkers (`WalkIR`) mean on go/ast nodes (`GoAst`).

`unfold w v` performs ONE element step of a walker on the node `v`: it selects the arm of the type
switch, evaluates guards, loops and paths, and returns the marking events of that step together
with the recursive walker calls it makes (`Item.recS` / `Item.recE`). `expand` replaces each
recursive call by the model's own answer for the abstracted argument (`Mark.evL`, `Mark.evEs`).
`Properties/Walker.lean` proves, against the IR regenerated from the Go source on every run, that
`expand (unfold processStatements g) = evS (abstrS g)` for every statement node `g` (and the same
for expressions): the model's walk equations are what the source says. -/
namespace GoatSpec.WalkSpec
open GoatSpec GoatSpec.GoAst GoatSpec.WalkIR

/-- a value a Go field path can denote -/
inductive GVal where
  | stmt (s : GStmt)
  | stmts (l : List GStmt)
  | expr (e : GExpr)
  | exprs (l : List GExpr)
  | block (lb rb : Nat) (l : List GStmt)      -- a `*ast.BlockStmt` field (`Body`)
  | callOf (fn : GExpr) (args : List GExpr)   -- `DeferStmt.Call` / `GoStmt.Call`
  | genDecl (specs : List GSpec)
  | specs (l : List GSpec)
  | spec (s : GSpec)
  | fieldList (ts : List GExpr)               -- `StructType.Fields`
  | fields (ts : List GExpr)                  -- `Fields.List`
  | field (t : GExpr)                         -- one `*ast.Field` (its Type)
  | decl (d : GDecl)                          -- a top-level declaration
  | nil
  | bad                                       -- no such field: the IR is ill-typed for this node

def ofOS : Option GStmt → GVal | none => .nil | some s => .stmt s
def ofOE : Option GExpr → GVal | none => .nil | some e => .expr e

def getS (s : GStmt) (f : String) : GVal :=
  match s with
  | .assign _ _ _ lhs rhs => if f == "Lhs" then .exprs lhs else if f == "Rhs" then .exprs rhs else .bad
  | .ret _ _ _ rs => if f == "Results" then .exprs rs else .bad
  | .deferS _ _ _ fn args => if f == "Call" then .callOf fn args else .bad
  | .goS _ _ _ fn args => if f == "Call" then .callOf fn args else .bad
  | .exprS _ _ _ x => if f == "X" then .expr x else .bad
  | .declS _ _ _ specs => if f == "Decl" then .genDecl specs else .bad
  | .block _ _ _ list => if f == "List" then .stmts list else .bad
  | .labeled _ _ _ s => if f == "Stmt" then .stmt s else .bad
  | .ifS _ _ _ init cond lb rb body els =>
    if f == "Init" then ofOS init else if f == "Cond" then .expr cond else if f == "Body" then .block lb rb body
    else if f == "Else" then ofOS els else .bad
  | .forS _ _ _ init cond post lb rb body =>
    if f == "Init" then ofOS init else if f == "Cond" then ofOE cond else if f == "Post" then ofOS post
    else if f == "Body" then .block lb rb body else .bad
  | .rangeS _ _ _ key value x lb rb body =>
    if f == "Key" then ofOE key else if f == "Value" then ofOE value else if f == "X" then .expr x
    else if f == "Body" then .block lb rb body else .bad
  | .switchS _ _ _ init tag lb rb cl =>
    if f == "Init" then ofOS init else if f == "Tag" then ofOE tag else if f == "Body" then .block lb rb cl else .bad
  | .typeSwitchS _ _ _ init asg lb rb cl =>
    if f == "Init" then ofOS init else if f == "Assign" then .stmt asg else if f == "Body" then .block lb rb cl else .bad
  | .selectS _ _ _ lb rb cl => if f == "Body" then .block lb rb cl else .bad
  | .caseC _ _ _ list _ body => if f == "List" then .exprs list else if f == "Body" then .stmts body else .bad
  | .commC _ _ _ comm _ body => if f == "Comm" then ofOS comm else if f == "Body" then .stmts body else .bad
  | .otherS .. => .bad

def getE (e : GExpr) (f : String) : GVal :=
  match e with
  | .funcLit _ _ lb rb list => if f == "Body" then .block lb rb list else .bad
  | .call _ _ fn args => if f == "Fun" then .expr fn else if f == "Args" then .exprs args else .bad
  | .composite _ _ typ elts => if f == "Type" then ofOE typ else if f == "Elts" then .exprs elts else .bad
  | .keyValue _ _ k v => if f == "Key" then .expr k else if f == "Value" then .expr v else .bad
  | .unary _ _ x => if f == "X" then .expr x else .bad
  | .structType _ _ fts => if f == "Fields" then .fieldList fts else .bad
  | .other .. => .bad

/-- one selector step; `[0]` is the index expression `x[0]` -/
def GVal.get (v : GVal) (f : String) : GVal :=
  match v with
  | .stmt s => getS s f
  | .expr e => getE e f
  | .block _ _ l => if f == "List" then .stmts l else .bad
  | .callOf fn args => if f == "Fun" then .expr fn else if f == "Args" then .exprs args else .bad
  | .genDecl sp => if f == "Specs" then .specs sp else .bad
  | .spec (.valueSpec typ vs) => if f == "Values" then .exprs vs else if f == "Type" then ofOE typ else .bad
  | .spec (.otherSpec _) => .bad
  | .fieldList ts => if f == "List" then .fields ts else .bad
  | .field t => if f == "Type" then .expr t else .bad
  | .decl (.funcDecl (some (lb, rb, list))) => if f == "Body" then .block lb rb list else .bad
  | .decl (.funcDecl none) => if f == "Body" then .nil else .bad
  | .decl (.genDecl sp) => if f == "Specs" then .specs sp else .bad
  | .stmts l => if f == "[0]" then (match l with | s :: _ => .stmt s | [] => .bad) else .bad
  | .exprs l => if f == "[0]" then (match l with | e :: _ => .expr e | [] => .bad) else .bad
  | _ => .bad

structure Ctx where
  root : GVal
  vars : List (String × GVal) := []

def resolveFrom (v : GVal) : Path → GVal
  | [] => v
  | f :: r => resolveFrom (v.get f) r

def Ctx.resolve (c : Ctx) : Path → GVal
  | [] => c.root
  | f :: r => if f.startsWith "$" then resolveFrom ((c.vars.lookup f).getD .bad) r else resolveFrom c.root (f :: r)

/-- what a type switch sees -/
def GVal.kind : GVal → String
  | .stmt s => s.kind
  | .expr e => e.kind
  | .block .. => "BlockStmt"
  | .genDecl _ => "GenDecl"
  | .spec (.valueSpec ..) => "ValueSpec"
  | .spec (.otherSpec _) => "?Spec"
  | .callOf .. => "CallExpr"
  | .decl (.funcDecl _) => "FuncDecl"
  | .decl (.genDecl _) => "GenDecl"
  | _ => "?"

/-- `x != nil`; a nil slice and an empty slice are not distinguished (both walk nothing) -/
def GVal.nonNil : GVal → Option Bool
  | .nil => some false
  | .bad => none
  | .stmts l => some (!l.isEmpty)
  | .exprs l => some (!l.isEmpty)
  | .specs l => some (!l.isEmpty)
  | .fields l => some (!l.isEmpty)
  | _ => some true

def GVal.len : GVal → Option Nat
  | .stmts l => some l.length
  | .exprs l => some l.length
  | .specs l => some l.length
  | .fields l => some l.length
  | _ => none

def GVal.posLine : GVal → Option Nat
  | .stmt s => some s.line
  | .expr e => some e.rng.1
  | _ => none

def GVal.endLine : GVal → Option Nat
  | .stmt s => some s.endLine
  | .expr e => some e.rng.2
  | _ => none

/-- line of a `token.Pos` field -/
def GVal.tokLine (v : GVal) (tok : String) : Option Nat :=
  match v with
  | .stmt (.ifS l ..) => if tok == "If" then some l else none
  | .stmt (.forS l ..) => if tok == "For" then some l else none
  | .stmt (.rangeS l ..) => if tok == "For" then some l else none
  | .stmt (.switchS l ..) => if tok == "Switch" then some l else none
  | .stmt (.typeSwitchS l ..) => if tok == "Switch" then some l else none
  | .stmt (.selectS l ..) => if tok == "Select" then some l else none
  | .stmt (.caseC l _ _ _ colon _) => if tok == "Case" then some l else if tok == "Colon" then some colon else none
  | .stmt (.commC l _ _ _ colon _) => if tok == "Case" then some l else if tok == "Colon" then some colon else none
  | .stmt (.block l ..) => if tok == "Lbrace" then some l else none
  | .block lb rb _ => if tok == "Lbrace" then some lb else if tok == "Rbrace" then some rb else none
  | _ => none

def evalC (c : Ctx) : Cond → Option Bool
  | .nonNil p => (c.resolve p).nonNil
  | .isNil p => (c.resolve p).nonNil.map (!·)
  | .nonEmpty p => (c.resolve p).len.map (· > 0)
  | .isEmpty p => (c.resolve p).len.map (· == 0)
  | .sameLine p q =>
    match (c.resolve p).posLine, (c.resolve q).endLine with
    | some a, some b => some (a == b)
    | _, _ => none
  | .sameTok p a q b =>
    match (c.resolve p).tokLine a, (c.resolve q).tokLine b with
    | some x, some y => some (x == y)
    | _, _ => none
  | .isKind p k => if (c.resolve p).kind == "?" then none else some ((c.resolve p).kind == k)
  | .tt => some true
  | .and a b =>
    match evalC c a with
    | some true => evalC c b
    | r => r
  | .or a b =>
    match evalC c a with
    | some false => evalC c b
    | r => r
  | .not a => (evalC c a).map (!·)

inductive Item where
  | ev (e : Ev)
  | recS (l : List GStmt)      -- t.processStatements(l, fset)
  | recE (l : List GExpr)      -- t.analyzeAndModifyExpr(l, fset)
  | recCtl (l : List GStmt)    -- t.processControlStatements(block, fset)
  | recGSpecs (sp : List GSpec) -- t.processGlobalValueSpecs(specs, fset)
  | recGLits (sp : List GSpec)  -- t.processGlobalFunctionLit(specs, fset)

/-- elements a `range` visits -/
def GVal.elems : GVal → Option (List GVal)
  | .stmts l => some (l.map .stmt)
  | .exprs l => some (l.map .expr)
  | .specs l => some (l.map .spec)
  | .fields l => some (l.map .field)
  | _ => none

/-- results of the iterations of a loop, in order; a `continue` inside a nested loop is not translated -/
def joinRes : List (Option (List Item × Bool)) → Option (List Item × Bool)
  | [] => some ([], false)
  | none :: _ => none
  | some (_, true) :: _ => none
  | some (is, false) :: r =>
    match joinRes r with
    | none => none
    | some (js, b) => some (is ++ js, b)

/-- result: the items produced and whether `continue` was executed; `none`: the IR does not
    type-check on this node (unknown field, `range` over a non-list, …) -/
abbrev Res := Option (List Item × Bool)

mutual
def evalA (c : Ctx) : Act → Res
  | .check p => (c.resolve p).posLine.map fun l => ([.ev (.check l)], false)
  | .single p =>
    match c.resolve p with
    | .stmt s => some ([.ev (.single s.line s.col)], false)
    | _ => none
  | .stmts p =>
    match c.resolve p with
    | .stmts l => some ([.recS l], false)
    | _ => none
  | .stmt1 p =>
    match c.resolve p with
    | .stmt s => some ([.recS [s]], false)
    | _ => none
  | .exprs p =>
    match c.resolve p with
    | .exprs l => some ([.recE l], false)
    | _ => none
  | .expr1 p =>
    match c.resolve p with
    | .expr e => some ([.recE [e]], false)
    | _ => none
  | .guard cd body =>
    match evalC c cd with
    | none => none
    | some false => some ([], false)
    | some true => evalL c body
  | .each p v body =>
    match (c.resolve p).elems with
    | none => none
    | some els => joinRes (els.map fun x => evalL { c with vars := (v, x) :: c.vars } body)
  | .tswitch p arms => evalArms c ((c.resolve p).kind) arms
  | .cont => some ([], true)
  | .ctl p =>
    match c.resolve p with
    | .block _ _ l => some ([.recCtl l], false)
    | _ => none
  | .globalSpecs p =>
    match c.resolve p with
    | .specs sp => some ([.recGSpecs sp], false)
    | _ => none
  | .globalLits p =>
    match c.resolve p with
    | .specs sp => some ([.recGLits sp], false)
    | _ => none
def evalL (c : Ctx) : List Act → Res
  | [] => some ([], false)
  | a :: r =>
    match evalA c a with
    | none => none
    | some (is, true) => some (is, true)
    | some (is, false) =>
      match evalL c r with
      | none => none
      | some (js, b) => some (is ++ js, b)
/-- the first arm whose type list names the kind; the translator puts `default` last as the arm `["*"]` -/
def evalArms (c : Ctx) (k : String) : List (List String × List Act) → Res
  | [] => some ([], false)
  | (ks, body) :: r => if ks.contains k || ks.contains "*" then evalL c body else evalArms c k r
end

/-- one element step of a walker: `if x == nil { continue }; switch x.(type) { … }` -/
def unfold (w : Walker) (v : GVal) : Option (List Item) :=
  match v with
  | .nil => some []
  | _ => (evalArms ⟨v, []⟩ v.kind w.arms).map (·.1)

def expandItem : Item → List Ev
  | .ev e => [e]
  | .recS l => evL (abstrL l)
  | .recE l => evEs (abstrEs l)
  | _ => []

def expand (is : List Item) : List Ev := is.flatMap expandItem

/-- declaration level (`addStmts`): the calls of the control pass and of the two passes over global
    value specs are answered by the model too -/
def expandItemD (ch : Nat → Bool) : Item → List Ev
  | .recCtl l => ctlL ch (abstrL l)
  | .recGSpecs sp => (outerEs (abstrEs (specValues sp))).flatMap globalLitEvents
  | .recGLits sp => (outerEs (abstrEs (specValues sp))).flatMap (globalLitCtl ch)
  | it => expandItem it

def expandD (ch : Nat → Bool) (is : List Item) : List Ev := is.flatMap (expandItemD ch)

/-! ## the control-statement pass (`processControlStatements`, an `ast.Inspect` callback) -/

/-- events, value of `changed` afterwards, `break` executed -/
abbrev CRes := Option (List Ev × Bool × Bool)

/-- iterations of a loop inside an arm: they do not assign `changed` and do not `break` -/
def joinC (changed : Bool) : List CRes → CRes
  | [] => some ([], changed, false)
  | none :: _ => none
  | some (es, ch', br) :: r =>
    if ch' != changed || br then none
    else match joinC changed r with
      | none => none
      | some (fs, c2, b2) => some (es ++ fs, c2, b2)

mutual
def evalCA (ch : Nat → Bool) (c : Ctx) (changed : Bool) : CAct → CRes
  | .breakIf cd => (evalC c cd).map fun b => ([], changed, b)
  | .setLine p tok => ((c.resolve p).tokLine tok).map fun l => ([], ch l, false)
  | .orRange cd p q =>        -- `!changed && cd` is evaluated without the short cut on `changed` (conditions are pure)
    match evalC c cd with
    | none => none
    | some false => some ([], changed, false)
    | some true =>
      match (c.resolve p).posLine, (c.resolve q).endLine with
      | some a, some b => some ([], changed || rngChanged ch (some (a, b)), false)
      | _, _ => none
  | .orAnyRange cd l =>
    match evalC c cd with
    | none => none
    | some false => some ([], changed, false)
    | some true =>
      match c.resolve l with
      | .exprs es => some ([], changed || es.any (fun e => rngChanged ch (some e.rng)), false)
      | _ => none
  | .ifChanged cd body =>      -- the body is evaluated in any case (it is pure); its events count when `changed`
    match evalC c cd with
    | none => none
    | some false => some ([], changed, false)
    | some true =>
      match evalCL ch c changed body with
      | none => none
      | some (es, c2, b2) => some (if changed then es else [], if changed then c2 else changed, changed && b2)
  | .force p tok => ((c.resolve p).tokLine tok).map fun l => ([.force (l + 1)], changed, false)
  | .guard cd body =>
    match evalC c cd with
    | none => none
    | some false => some ([], changed, false)
    | some true => evalCL ch c changed body
  | .each p v body =>
    match (c.resolve p).elems with
    | none => none
    | some els => joinC changed (els.map fun x => evalCL ch { c with vars := (v, x) :: c.vars } changed body)
def evalCL (ch : Nat → Bool) (c : Ctx) (changed : Bool) : List CAct → CRes
  | [] => some ([], changed, false)
  | a :: r =>
    match evalCA ch c changed a with
    | none => none
    | some (es, ch', true) => some (es, ch', true)
    | some (es, ch', false) =>
      match evalCL ch c ch' r with
      | none => none
      | some (fs, c2, b2) => some (es ++ fs, c2, b2)
end

def evalCArms (ch : Nat → Bool) (c : Ctx) (k : String) : List (List String × List CAct) → CRes
  | [] => some ([], false, false)
  | (ks, body) :: r => if ks.contains k || ks.contains "*" then evalCL ch c false body else evalCArms ch c k r

/-- the callback on one node: `var changed bool; switch n := n.(type) { … }; return true` -/
def inspect (w : Inspector) (ch : Nat → Bool) (v : GVal) : Option (List Ev) :=
  match evalCArms ch ⟨v, []⟩ v.kind w.arms with
  | some (es, _, _) => some es
  | none => none

/-! ## passes over global value specs (`processGlobalValueSpecs`, `processGlobalFunctionLit`) -/

/-! outermost function literals of an expression, in `ast.Inspect` order without descending into a literal -/
mutual
def outerG : GExpr → List GExpr
  | .funcLit p e lb rb list => [.funcLit p e lb rb list]
  | .call _ _ fn args => outerG fn ++ outerGs args
  | .composite _ _ typ elts => outerGo typ ++ outerGs elts
  | .keyValue _ _ k v => outerG k ++ outerG v
  | .unary _ _ x => outerG x
  | .structType _ _ fts => outerGs fts
  | .other _ _ cs => outerGs cs
def outerGo : Option GExpr → List GExpr
  | none => []
  | some e => outerG e
def outerGs : List GExpr → List GExpr
  | [] => []
  | e :: es => outerG e ++ outerGs es
end

/-- the arm on each outermost literal, results in order (a `return false` inside the arm ends the arm only) -/
def litPassOn (acts : List Act) : List GExpr → Option (List Item)
  | [] => some []
  | g :: r =>
    match evalL ⟨.expr g, []⟩ acts, litPassOn acts r with
    | some (is, _), some js => some (is ++ js)
    | _, _ => none

def litPass (w : LitPass) (specs : List GSpec) : Option (List Item) :=
  litPassOn w.arm (outerGs (specValues specs))

end GoatSpec.WalkSpec
