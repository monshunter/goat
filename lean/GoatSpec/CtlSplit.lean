import GoatSpec.Mark
/-! # GoatSpec.CtlSplit — functions over `Stmt` only, no IR involved: `Proofs/Walk.lean` shows
    `ctlS = ctlHead ++ ctlKids` (`ctlS_eq`), `Properties/Walker.lean` that the translated callback
    of `processControlStatements` is `ctlHead`. -/
namespace GoatSpec.WalkSpec

@[simp] theorem rngChanged_none (ch : Nat → Bool) : rngChanged ch none = false := rfl

def elseForce : List Stmt → List Ev
  | [.block bl _ b] => if b.isEmpty then [] else [Ev.force (bl + 1)]
  | _ => []

def ctlHead (ch : Nat → Bool) : Stmt → List Ev
  | .ifS l _ _ initR condR _ lb _ _ els =>
    if ch l || rngChanged ch initR || rngChanged ch condR then Ev.force (lb + 1) :: elseForce els else []
  | .forS l _ _ initR condR postR _ _ lb _ _ =>
    if ch l || rngChanged ch initR || rngChanged ch condR || rngChanged ch postR then [Ev.force (lb + 1)] else []
  | .rangeS l _ keyR valR xR _ lb _ _ =>
    if ch l || rngChanged ch keyR || rngChanged ch valR || rngChanged ch xR then [Ev.force (lb + 1)] else []
  | .switchS l _ _ initR tagR _ _ _ cl => if ch l || rngChanged ch initR || rngChanged ch tagR then clauseForces cl else []
  | .typeSwitchS l _ _ initR asgR _ _ _ cl => if ch l || rngChanged ch initR || rngChanged ch asgR then clauseForces cl else []
  | .caseC l _ listR _ colon _ => if ch l || listR.any (fun r => rngChanged ch (some r)) then [Ev.force (colon + 1)] else []
  | .commC l _ commR _ colon _ => if ch l || rngChanged ch commR then [Ev.force (colon + 1)] else []
  | _ => []

/-- the children in `ast.Walk` order (go/ast's traversal, as the extractor reports it) -/
def ctlKids (ch : Nat → Bool) : Stmt → List Ev
  | .simple _ _ _ pre ent post => ctlEs ch pre ++ ctlEs ch ent ++ ctlEs ch post
  | .block _ _ body => ctlL ch body
  | .labeled _ _ inner => ctlS ch inner
  | .ifS _ _ init _ _ cond _ _ body els => ctlL ch init ++ ctlEs ch cond ++ ctlL ch body ++ ctlL ch els
  | .forS _ _ init _ _ _ cond post _ _ body => ctlL ch init ++ ctlEs ch cond ++ ctlL ch post ++ ctlL ch body
  | .rangeS _ _ _ _ _ kvx _ _ body => ctlEs ch kvx ++ ctlL ch body
  | .switchS _ _ init _ _ tag _ _ cl => ctlL ch init ++ ctlEs ch tag ++ ctlL ch cl
  | .typeSwitchS _ _ init _ _ asg _ _ cl => ctlL ch init ++ ctlL ch asg ++ ctlL ch cl
  | .selectS _ _ _ _ cl => ctlL ch cl
  | .caseC _ _ _ list _ body => ctlEs ch list ++ ctlL ch body
  | .commC _ _ _ comm _ body => ctlL ch comm ++ ctlL ch body

end GoatSpec.WalkSpec
