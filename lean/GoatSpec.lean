import GoatSpec.Basic
import GoatSpec.Extracted
import GoatSpec.Proto
import GoatSpec.Text
import GoatSpec.TextSpec
import GoatSpec.Proofs.Text
import GoatSpec.Proofs.Items
import GoatSpec.Proofs.Clean
import GoatSpec.Proofs.Idem
import GoatSpec.Properties.C06
import GoatSpec.Ast
import GoatSpec.Scopes
import GoatSpec.Mark
import GoatSpec.CtlSplit
import GoatSpec.Splice
import GoatSpec.MarkSpec
import GoatSpec.Coherence
import GoatSpec.Proofs.Mark
import GoatSpec.Proofs.FuncScope
import GoatSpec.Proofs.Walk
import GoatSpec.Proofs.WalkEval
import GoatSpec.Properties.C09
import GoatSpec.Runtime
import GoatSpec.RuntimeSpec
import GoatSpec.Proofs.Sort
import GoatSpec.Proofs.Runtime
import GoatSpec.Properties.C07
import GoatSpec.Drv.Runtime
import GoatSpec.Drv.Text
import GoatSpec.Drv.Mark
import GoatSpec.Paths
import GoatSpec.Ids
import GoatSpec.Properties.C01
import GoatSpec.Properties.C02
import GoatSpec.Properties.C03
import GoatSpec.Properties.C05
import GoatSpec.Properties.C13
import GoatSpec.Drv.Paths
import GoatSpec.Drv.Ids
import GoatSpec.Config
import GoatSpec.Proofs.Config
import GoatSpec.Properties.C16
import GoatSpec.Drv.Config
import GoatSpec.Properties.C10
import GoatSpec.Cmd
import GoatSpec.Proofs.Cmd
import GoatSpec.Properties.C11
import GoatSpec.Properties.C12
import GoatSpec.Properties.C15
import GoatSpec.Drv.Cmd
import GoatSpec.Sched
import GoatSpec.Proofs.Sched
import GoatSpec.Properties.C08
import GoatSpec.NonInterf
import GoatSpec.Properties.C14
import GoatSpec.Diff
import GoatSpec.Proofs.Diff
import GoatSpec.Properties.C04
import GoatSpec.Properties.C17
import GoatSpec.Drv.Diff
import GoatSpec.Proofs.Closure
import GoatSpec.Proofs.Mono
import GoatSpec.SkelSpec
import GoatSpec.Proofs.Skel
import GoatSpec.Layout
import GoatSpec.Proofs.Legal
import GoatSpec.Proofs.ScopeBlks
import GoatSpec.Proofs.Header
import GoatSpec.Properties.C09Shape
import GoatSpec.Properties.Pools
import GoatSpec.WalkIR
import GoatSpec.GoAst
import GoatSpec.Walker
import GoatSpec.WalkSpec
import GoatSpec.Properties.Walker
import GoatSpec.Proofs.Patch
import GoatSpec.Properties.C03Patch
